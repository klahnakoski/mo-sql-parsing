import MoSql.Lemmas.PegBounds
/-!
The simulation of `PegSim` instantiated for two texts that differ in ONE gap: `pre ++ f ++ post` and
`pre ++ f' ++ post`.  Places in front of the gap are `u ++ f ++ post` / `u ++ f' ++ post` for the same rest `u` of
`pre`; places behind it are the same text on both sides.
-/
namespace MoSql.Peg

def GapRel (f f' post : Str) (good : Str → Prop) (x x' : Str) : Prop :=
  (∃ u, good u ∧ x = u ++ (f ++ post) ∧ x' = u ++ (f' ++ post)) ∨ (x = x' ∧ x.length ≤ post.length)

/-- what has to be known about the whitespace engines and the terminals of the grammar, for the two fillers:
`goodE` = rests of `pre` at which a match can end, `goodC` = rests of `pre` at which a match is tried -/
structure GapHyp (E : Env) (f f' post : Str) (goodC goodE : Str → Prop) (P : Term → Bool) (Q : Nat → Bool) : Prop where
  f_ne : f ≠ []
  f'_ne : f' ≠ []
  c_e : ∀ u, goodC u → goodE u
  skip_le : ∀ ws, Q ws = true → ∀ x, (E.skip ws x).length ≤ x.length
  /-- skipping from an end in front of the gap leads to a place in front of it on both sides, or behind it on both -/
  skip_gap : ∀ ws, Q ws = true → ∀ u, goodE u →
    GapRel f f' post goodC (E.skip ws (u ++ (f ++ post))) (E.skip ws (u ++ (f' ++ post)))
  /-- a terminal tried in front of the gap does not see which filler stands in it -/
  term_gap : ∀ t, P t = true → ∀ u, goodC u →
    TermRel (GapRel f f' post goodE) (matchTerm t (u ++ (f ++ post))) (matchTerm t (u ++ (f' ++ post)))

theorem gap_sim {E : Env} {f f' post : Str} {goodC goodE : Str → Prop} {P : Term → Bool} {Q : Nat → Bool}
    (h : GapHyp E f f' post goodC goodE P Q) :
    Sim E (GapRel f f' post goodC) (GapRel f f' post goodE) P Q where
  c_e _ _ := Or.imp_left fun ⟨u, hu, e⟩ => ⟨u, h.c_e u hu, e⟩
  lt_iff := by
    -- a place in front of the gap is longer than any place behind it
    have far {g : Str} (hg : g ≠ []) (u : Str) {y : Str} (hy : y.length ≤ post.length) :
        y.length < (u ++ (g ++ post)).length := by
      have := List.length_pos_iff.mpr hg
      simp only [List.length_append]; omega
    rintro _ _ _ _ (⟨u, _, rfl, rfl⟩ | ⟨rfl, hx⟩) (⟨v, _, rfl, rfl⟩ | ⟨rfl, hy⟩)
    · simp only [List.length_append, Nat.add_lt_add_iff_right]
    · exact iff_of_true (far h.f_ne u hy) (far h.f'_ne u hy)
    · exact iff_of_false (Nat.lt_asymm (far h.f_ne v hx)) (Nat.lt_asymm (far h.f'_ne v hx))
    · exact .rfl
  nil_iff := by
    rintro _ _ (⟨u, _, rfl, rfl⟩ | ⟨rfl, _⟩)
    · have ne {g : Str} (hg : g ≠ []) : (u ++ (g ++ post)).isEmpty = false := by simp [List.isEmpty_eq_false_iff, hg]
      rw [ne h.f_ne, ne h.f'_ne]
    · rfl
  skip ws hws := by
    rintro _ _ (⟨u, hu, rfl, rfl⟩ | ⟨rfl, hx⟩)
    · exact h.skip_gap ws hws u hu
    · exact Or.inr ⟨rfl, Nat.le_trans (h.skip_le ws hws _) hx⟩
  term t ht := by
    rintro x _ (⟨u, hu, rfl, rfl⟩ | ⟨rfl, hx⟩)
    · exact h.term_gap t ht u hu
    · exact .diag fun s r hm => Or.inr ⟨rfl, Nat.le_trans (matchTerm_le t x s r hm) hx⟩

/-- what a caller sees of a match: failure, the tokens, or no answer -/
def Res.outcome : Res → Option (Option (List Tok))
  | .fail => some none
  | .ok ts _ => some (some ts)
  | .diverge => none

theorem outcome_eq_of_rel {Re : Str → Str → Prop} {a b : Res} (h : ResRel Re a b) : a.outcome = b.outcome :=
  h.elim rfl rfl fun _ _ _ _ => rfl

/-- `u` begins with something no filler can begin with, whatever follows `u` (one character: not white, `#`, `-`, `/`;
two or more: the first two do not open a comment) -/
def solidStart : Str → Bool
  | [] => false
  | [c] => !Skip.isWhite c && c != '#' && c != '-' && c != '/'
  | c :: c2 :: _ => Skip.stopsHere [c, c2]

theorem stopsHere_of_solidStart : ∀ (u k : Str), solidStart u = true → Skip.stopsHere (u ++ k) = true
  | [c], k, h => by
    simp only [solidStart, Bool.and_eq_true, Bool.not_eq_true', bne_iff_ne] at h
    simp [Skip.stopsHere, h]
  | c :: c2 :: cs, k, h => h

/-- a literal that fits into `u` does not look beyond it -/
theorem stripPrefix_append (cl : Bool) (s u k : Str) (h : s.length ≤ u.length) :
    stripPrefix cl s (u ++ k) = (stripPrefix cl s u).map (· ++ k) := by
  fun_induction stripPrefix cl s u with
  | case1 => rfl
  | case2 => cases h
  | case3 a s b u hc ih => rw [List.cons_append, stripPrefix, if_pos hc, ih (Nat.le_of_succ_le_succ h)]
  | case4 a s b u hc => rw [List.cons_append, stripPrefix, if_neg hc]; rfl

section
variable {f f' post u : Str} {goodE : Str → Prop} {t : Term}

/-- a terminal that answers from `u` alike whatever follows (`k`) does not see the gap -/
theorem TermRel.gap_of_none (h : ∀ k, matchTerm t (u ++ k) = none) :
    TermRel (GapRel f f' post goodE) (matchTerm t (u ++ (f ++ post))) (matchTerm t (u ++ (f' ++ post))) := by
  rw [h, h]; trivial

theorem TermRel.gap_of_some {s r : Str} (h : ∀ k, matchTerm t (u ++ k) = some (s, r ++ k)) (hr : goodE r) :
    TermRel (GapRel f f' post goodE) (matchTerm t (u ++ (f ++ post))) (matchTerm t (u ++ (f' ++ post))) := by
  rw [h, h]; exact ⟨rfl, Or.inl ⟨r, hr, rfl, rfl⟩⟩

end

end MoSql.Peg
