import MoSql.Format
import MoSql.Lemmas.OkTop
/-! The parentheses of the `Operator(...)` renderers suffice: their output is precedence-compatible at every level.
An operand is written atomic or in parentheses, or bare, and then the table obligation `soundTable` says that the
parser keeps it in its slot (`slot_level`); `FormatCompat2` repeats the argument for the table of all renderers. -/
namespace MoSql.Fmt
open MoSql MoSql.Infix MoSql.E

variable (cx : Ctx) (known : List (String × Nat × String)) (ops : List FmtOp)

theorem bare_of_lt {p : Int} {o : FmtOp} (h : o.prec2 < p) : bare p o = true := by
  simp [bare, h]

/-- root level of the written form of an operand -/
theorem top_fmtE (t : T) (p : Int) :
    (toW cx (fmtE ops t p)).top =
      (rootOp ops t).bind fun c => if bare p c = true then some c.info.level else none := by
  cases t with
  | leaf s r => rfl
  | bin k l r => exact top_ite_paren cx _ _

variable {cx known ops}

theorem rootOp_mem {t : T} {c : FmtOp} (ha : admissible known ops t = true) (h : rootOp ops t = some c) :
    c ∈ ops := by
  cases t with
  | leaf s r => cases h
  | bin k l r =>
    simp only [admissible, Bool.and_eq_true, decide_eq_true_eq, and_assoc] at ha
    exact Option.some.inj h ▸ getD_mem default ha.1

variable (hs : soundTable known ops = true)
include hs

theorem tripleOK_of_sound {o c : FmtOp} (ho : o ∈ ops) (hc : c ∈ ops) {slot : Nat} (hsl : slot < 2) :
    tripleOK known o c slot = true := by
  have h := List.all_eq_true.mp (List.all_eq_true.mp hs o ho) c hc
  simp only [Bool.and_eq_true] at h
  match slot with
  | 0 => exact h.1
  | 1 => exact h.2

theorem slot_level {o : FmtOp} (ho : o ∈ ops) {slot : Nat} (hsl : slot < 2) {t : T}
    (hadm : admissible known ops t = true)
    (hch : (match rootOp ops t with | some c => !isKnown known o slot c | none => true) = true) :
    (if slot = 0 then W.leB else W.ltB) (toW cx (fmtE ops t (slotPrec o slot))) o.info.level = true :=
  W.fits_of_root (kn := isKnown known o slot) (top_fmtE cx ops t _)
    (fun c hc => by simpa [hc] using hch)
    (fun c hc => tripleOK_of_sound hs ho (rootOp_mem hadm hc) hsl)

variable (cx known ops) (hw : wfTable cx.levels ops = true)
include hw

theorem okTop_fmtE (t : T) (p : Int) (h : admissible known ops t = true) : okTop cx (fmtE ops t p) = true := by
  induction t generalizing p with
  | leaf s r => exact okTop_atom cx s r
  | bin k l r ihl ihr =>
    simp only [admissible, Bool.and_eq_true, decide_eq_true_eq] at h
    obtain ⟨⟨⟨⟨hk, hcl⟩, hcr⟩, hal⟩, har⟩ := h
    have ho := getD_mem default hk
    simp only [fmtE]
    generalize ops.getD k default = o at *
    rw [okTop_ite_paren]
    exact okTop_bin cx (List.all_eq_true.mp hw o ho)
      (slot_level hs ho (slot := 0) (by decide) hal hcl)
      (slot_level hs ho (slot := 1) (by decide) har hcr)
      (ihl _ hal) (ihr _ har)

end MoSql.Fmt
