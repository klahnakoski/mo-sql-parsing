import MoSql.ManyCommand
namespace MoSql.ManyCommand
variable {S : Type}

/-- a run of semicolons is skipped; a non-empty one also allows the next statement -/
theorem go_semis (b : Bool) (n : Nat) (ts : List (Tk S)) : go b (semis n ++ ts) = go (n == 0 && b) ts := by
  induction n generalizing b with
  | zero => rfl
  | succ k ih => exact (ih false).trans (by rw [Bool.and_false]; rfl)

theorem go_body (xs : List (S × Nat)) (h : separated xs = true) : go false (body xs) = some (xs.map (·.1)) := by
  induction xs with
  | nil => rfl
  | cons x rest ih =>
    rw [body, go, go_semis]
    cases rest with
    | nil => rfl
    | cons y rest =>
      simp only [separated, Bool.and_eq_true, decide_eq_true_eq] at h
      rw [beq_eq_false_iff_ne.mpr (Nat.ne_of_gt h.1), Bool.false_and, ih h.2]
      rfl

end MoSql.ManyCommand
