import MoSql.Expr
import MoSql.Lemmas.Tables
/-!
What the proofs about the two formatter models share.  `okTop` node by node: the row is the parser's, every operand
fits its slot and is itself `okTop`.  Why a formatter's operand fits its slot is said once, for any table of renderers
and with the slot as a variable (`W.fits_of_root`).
-/
namespace MoSql.Infix

/- "fits slot `slot`" is written `(if slot = 0 then W.leB else W.ltB)`: it computes to `leB` or `ltB` at a numeral, and
the slot can stay a variable up to there.  The test on the level is spelt as `Fmt.genCompat` spells it. -/
theorem W.fits_of_top {V : Type} {w : W V} {slot k : Nat}
    (h : ∀ j, w.top = some j → (if slot == 0 then decide (j ≤ k) else decide (j < k)) = true) :
    (if slot = 0 then W.leB else W.ltB) w k = true := by
  split
  · exact W.leB_iff.mpr fun j hj => by simpa [*] using h j hj
  · exact W.ltB_iff.mpr fun j hj => by simpa [*] using h j hj

/-- `r` is the operand's root operator (none for an atom), written outside parentheses exactly when `bare`; `kn` says
that the triple (outer operator, slot, root) is set aside as known; `htr` is the table's test `tripleOK`. -/
theorem W.fits_of_root {V ρ : Type} {w : W V} {slot k : Nat} {r : Option ρ} {bare kn : ρ → Bool} {lvl : ρ → Nat}
    (htop : w.top = r.bind fun c => if bare c = true then some (lvl c) else none)
    (hkn : ∀ c, r = some c → kn c = false)
    (htr : ∀ c, r = some c →
      (kn c || !bare c || (if slot == 0 then decide (lvl c ≤ k) else decide (lvl c < k))) = true) :
    (if slot = 0 then W.leB else W.ltB) w k = true := by
  refine W.fits_of_top fun j hj => ?_
  rw [htop] at hj
  cases r with
  | none => cases hj
  | some c =>
    have htr := htr c rfl
    rw [Option.bind_some] at hj
    split at hj
    · cases hj
      rwa [hkn c rfl, ‹bare c = true›] at htr
    · cases hj

end MoSql.Infix

namespace MoSql.E
open MoSql.Infix

variable (cx : Ctx)

theorem okTop_atom (s : String) (r : Raw) : okTop cx (.atom s r) = true := by
  simp [okTop, okSub, toW, W.wfB, W.compatB]

theorem okTop_paren (e : E) : okTop cx (.paren e) = okTop cx e := by
  simp [okTop, okSub, toW, W.wfB, W.compatB]

theorem okTop_ite_paren (b : Bool) (e : E) : okTop cx (if b = true then e else .paren e) = okTop cx e := by
  split
  · rfl
  · exact okTop_paren cx e

theorem top_ite_paren (b : Bool) (e : E) :
    (toW cx (if b = true then e else .paren e)).top = if b = true then (toW cx e).top else none := by
  split <;> rfl

theorem okTop_pre {o : OpInfo} {x : E} (ho : nodeOkB cx.levels o.level .pre o.id = true)
    (hx : (toW cx x).leB o.level = true) (ih : okTop cx x = true) : okTop cx (.pre o x) = true := by
  simp only [okTop, Bool.and_eq_true] at ih
  simp [okTop, okSub, toW, W.wfB, W.compatB, tok, *]

theorem okTop_bin {o : OpInfo} {l r : E} (ho : nodeOkB cx.levels o.level .bin o.id = true)
    (hl : (toW cx l).leB o.level = true) (hr : (toW cx r).ltB o.level = true)
    (ihl : okTop cx l = true) (ihr : okTop cx r = true) : okTop cx (.bin o l r) = true := by
  simp only [okTop, Bool.and_eq_true] at ihl ihr
  simp [okTop, okSub, toW, W.wfB, W.compatB, tok, *]

theorem okTop_tern {o : OpInfo} {a b c : E} {L : Level} (hL : cx.levels[o.level]? = some L)
    (ho : (L.kind == Kind.tern && L.id0 == o.id && L.id1 == o.id2) = true)
    (ha : (toW cx a).leB o.level = true) (hb : (toW cx b).ltB o.level = true)
    (hc : (toW cx c).ltB o.level = true)
    (iha : okTop cx a = true) (ihb : okTop cx b = true) (ihc : okTop cx c = true) :
    okTop cx (.tern o a b c) = true := by
  simp only [okTop, Bool.and_eq_true] at iha ihb ihc ho
  simp [okTop, okSub, toW, W.wfB, W.compatB, tok, tok2, *]

end MoSql.E
