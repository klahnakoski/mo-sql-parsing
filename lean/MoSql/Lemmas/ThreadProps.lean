import MoSql.Session
/-! Threads that each obey `sectionOK`, interleaved in any order: the invariant `Inv` keeps, for every thread, the run it
would have made alone. -/
namespace MoSql.Session

variable {args : Nat → String → Val} {prog : Nat → List Instr} {s0 : Store}

theorem sectionOK_false (d : List String) (q : List Instr) : sectionOK false d q = sectionOK false [] q := by
  cases q with
  | nil => rfl
  | cons i q => cases i <;> rfl

theorem sectionOK_append {h : Bool} {d : List String} {p q : List Instr}
    (hp : sectionOK h d p = true) (hq : sectionOK false [] q = true) : sectionOK h d (p ++ q) = true := by
  fun_induction sectionOK h d p with
  | case1 h d =>
    cases h with
    | false => rwa [List.nil_append, sectionOK_false]
    | true => cases hp
  | case2 h d p ih | case3 h d p ih | case4 h d g p ih | case5 h d g p ih | case6 h d g p ih =>
    simp only [List.cons_append, sectionOK, Bool.and_eq_true] at hp ⊢
    exact ⟨hp.1, ih hp.2⟩

/-- what is known about thread `t` in a reachable state: it is inside a critical section exactly when it
owns the lock, `d` are the globals it has installed there, and `solo` is the store a run of the same
program alone (from `s0`) would have reached; on `d` both stores hold `t`'s own values -/
def TInv (args : Nat → String → Val) (prog : Nat → List Instr) (s0 : Store) (s : Sys) (t : Nat) : Prop :=
  ∃ (d : List String) (solo : Store),
    sectionOK (decide (s.owner = some t)) d (s.th t).todo = true ∧
    run (args t) (prog t) s0 [] = run (args t) (s.th t).todo solo (s.th t).tr ∧
    (s.owner = some t → ∀ g ∈ d, solo g = args t g ∧ s.store g = args t g)

def Inv (args : Nat → String → Val) (prog : Nat → List Instr) (s0 : Store) (s : Sys) : Prop :=
  ∀ t, TInv args prog s0 s t

/-- `s0` (where the solo runs start) need not be the store the system starts in -/
theorem inv_init (s0 s0' : Store) (hp : ∀ t, sectionOK false [] (prog t) = true) :
    Inv args prog s0 (sysInit prog s0') :=
  fun t => ⟨[], s0, hp t, rfl, fun h => nomatch h⟩

theorem upd_same (f : Nat → Thread) (t : Nat) (x : Thread) : upd f t x t = x := if_pos rfl
theorem upd_other (f : Nat → Thread) {t u : Nat} (x : Thread) (h : u ≠ t) : upd f t x u = f u := if_neg h

/-- The invariant survives any change of state that replaces thread `t`'s record by one for which the
three clauses hold again, moves the lock only between free and `t`, and writes the store only if `t`
holds the lock: what is known about another thread mentions the store only while that thread holds
the lock. -/
theorem Inv.update {s : Sys} {t : Nat} (hI : Inv args prog s0 s) {store' : Store} {owner' : Option Nat}
    {x : Thread} (d : List String) (solo : Store)
    (hok : sectionOK (decide (owner' = some t)) d x.todo = true)
    (hrun : run (args t) (prog t) s0 [] = run (args t) x.todo solo x.tr)
    (hval : owner' = some t → ∀ g ∈ d, solo g = args t g ∧ store' g = args t g)
    (ho : ∀ u, u ≠ t → (owner' = some u ↔ s.owner = some u))
    (hs : s.owner ≠ some t → store' = s.store) :
    Inv args prog s0 { store := store', owner := owner', th := upd s.th t x } := by
  intro u
  by_cases hu : u = t
  · subst hu
    exact ⟨d, solo, by simpa only [upd_same] using hok, by simpa only [upd_same] using hrun, hval⟩
  · obtain ⟨du, solou, hoku, hrunu, hvalu⟩ := hI u
    have hst : s.owner = some u → store' = s.store := fun e => hs (by simp [e, hu])
    refine ⟨du, solou, ?_, ?_, fun hown => ?_⟩
    · simpa only [upd_other _ _ hu, ho u hu] using hoku
    · simpa only [upd_other _ _ hu] using hrunu
    · simpa only [hst ((ho u hu).mp hown)] using hvalu ((ho u hu).mp hown)

theorem inv_step (s : Sys) (t : Nat) (hI : Inv args prog s0 s) : Inv args prog s0 (stepT args s t) := by
  obtain ⟨d, solo, hok, hrun, hval⟩ := hI t
  unfold stepT
  cases htodo : (s.th t).todo with
  | nil => exact hI
  | cons i p =>
    rw [htodo] at hok hrun
    cases i with
    | acq =>
      dsimp only
      split
      next hfree =>
        simp only [hfree, sectionOK] at hok
        exact hI.update [] solo (by simpa using hok) hrun (fun _ _ h => nomatch h)
          (ho := fun u hu => by simp [hfree, Ne.symm hu]) (hs := fun _ => rfl)
      next => exact hI
    | rel =>
      simp only [sectionOK, Bool.and_eq_true, decide_eq_true_eq] at hok
      exact hI.update [] solo (by simpa using hok.2) hrun (fun _ _ h => nomatch h)
        (ho := fun u hu => by simp [hok.1, Ne.symm hu]) (hs := fun _ => rfl)
    | set g =>
      simp only [sectionOK, Bool.and_eq_true, decide_eq_true_eq] at hok
      refine hI.update (g :: d) (fun y => if y = g then args t g else solo y) (by simpa [hok.1] using hok.2) hrun
        (fun _ y hy => ?_) (ho := fun _ _ => Iff.rfl) (hs := fun h => absurd hok.1 h)
      by_cases hyg : y = g
      · simp [hyg]
      · simpa [hyg] using hval hok.1 y ((List.mem_cons.mp hy).resolve_left hyg)
    | use g =>
      simp only [sectionOK, Bool.and_eq_true, decide_eq_true_eq, List.contains_iff_mem] at hok
      -- the value read is the one the solo run reads: both are `t`'s own
      have hseen : s.store g = solo g := by rw [(hval hok.1.1 g hok.1.2).1, (hval hok.1.1 g hok.1.2).2]
      exact hI.update d solo (by simpa [hok.1.1] using hok.2) (hseen ▸ hrun) hval
        (ho := fun _ _ => Iff.rfl) (hs := fun _ => rfl)
    | touch g =>
      simp only [sectionOK, Bool.and_eq_true, decide_eq_true_eq] at hok
      exact hI.update d solo (by simpa [hok.1] using hok.2) hrun hval (ho := fun _ _ => Iff.rfl) (hs := fun _ => rfl)

theorem inv_sched (sched : List Nat) {s : Sys} (h : Inv args prog s0 s) :
    Inv args prog s0 (runSched args s sched) := by
  induction sched generalizing s with
  | nil => exact h
  | cons t rest ih => exact ih (inv_step s t h)

/-- thread `t` can take a step that changes the state -/
def enabled (s : Sys) (t : Nat) : Prop :=
  match (s.th t).todo with
  | [] => False
  | .acq :: _ => s.owner = none
  | _ => True

/-- the lock holder is never blocked (inside a critical section the program neither ends nor acquires
again), and while the lock is free every thread with work left can move -/
theorem no_deadlock {s : Sys} (hI : Inv args prog s0 s) (u : Nat) (hu : (s.th u).todo ≠ []) : ∃ t, enabled s t := by
  cases hown : s.owner with
  | none =>
    refine ⟨u, ?_⟩
    unfold enabled
    split
    · contradiction
    · exact hown
    · trivial
  | some t =>
    obtain ⟨d, _, hok, _⟩ := hI t
    rw [hown, decide_eq_true rfl] at hok
    refine ⟨t, ?_⟩
    unfold enabled
    split
    next e => rw [e] at hok; cases hok
    next e => rw [e] at hok; cases hok
    next => trivial

end MoSql.Session
