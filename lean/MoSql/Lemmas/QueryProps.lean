import MoSql.Query
/-! ### `to_union_call`: the loop `fold` against the demanded grouping `spec`
`step` extends the node before it exactly when the operator repeats the last one and is of UNION kind. -/
namespace MoSql.Query
open MoSql

theorem fold_cons_plain {last : Option String} {o : String} (h : (last == some o && isUnionOp o) = false)
    (acc so : J) (rest : List (String × J)) :
    fold acc last ((o, so) :: rest) = fold (.obj [(o, .arr [acc, so])]) (some o) rest := by
  rw [fold]
  unfold step
  rw [h]
  rfl

theorem no_merge_of_ne {op : String} {p : String × J} (h : sameOp op p = false) :
    (some op == some p.1 && isUnionOp p.1) = false := by
  rw [Option.some_beq_some, BEq.comm, show (p.1 == op) = false from h, Bool.false_and]

theorem fold_union_run {op : String} (hu : isUnionOp op = true) (rest : List (String × J)) (xs : List J) :
    fold (.obj [(op, .arr xs)]) (some op) rest
      = fold (.obj [(op, .arr (xs ++ (rest.takeWhile (sameOp op)).map (·.2)))]) (some op)
          (rest.dropWhile (sameOp op)) := by
  induction rest generalizing xs with
  | nil => rw [List.takeWhile_nil, List.map_nil, List.append_nil]; rfl
  | cons p rest ih =>
    rw [List.takeWhile_cons, List.dropWhile_cons]
    cases hs : sameOp op p with
    | true =>
      rw [if_pos rfl, if_pos rfl, List.map_cons, List.append_cons, ← ih, fold, step, eq_of_beq hs,
        beq_self_eq_true, hu]
      rfl
    | false => rw [if_neg Bool.false_ne_true, if_neg Bool.false_ne_true, List.map_nil, List.append_nil]

/-- `fold` and `spec` agree from any point at which the next operator does not continue a run
(`last` is looked at for the next operator only) -/
theorem fold_eq_spec_of {fuel : Nat} {rest : List (String × J)} (h : rest.length ≤ fuel) (acc : J)
    {last : Option String} (hl : ∀ p ∈ rest.head?, (last == some p.1 && isUnionOp p.1) = false) :
    fold acc last rest = spec acc fuel rest := by
  induction fuel generalizing rest acc last with
  | zero => cases List.eq_nil_of_length_eq_zero (Nat.le_zero.mp h); rfl
  | succ fuel ih =>
    match rest with
    | [] => rfl
    | (op, so) :: rest =>
      have h : rest.length ≤ fuel := Nat.le_of_succ_le_succ h
      rw [fold_cons_plain (hl _ rfl), spec]
      cases hu : isUnionOp op with
      | true =>
        -- the run is absorbed; what follows it has another operator
        rw [if_pos rfl, fold_union_run hu]
        refine ih (Nat.le_trans (List.dropWhile_sublist _).length_le h) _ fun p hp => ?_
        have := List.head?_dropWhile_not (sameOp op) rest
        rw [Option.mem_def.mp hp] at this
        exact no_merge_of_ne this
      | false =>
        rw [if_neg Bool.false_ne_true]
        refine ih h _ fun p _ => ?_
        cases hp : sameOp op p with
        | false => exact no_merge_of_ne hp
        | true => rw [eq_of_beq hp, hu, Bool.and_false]

/-- **`to_union_call` groups as demanded, for chains of any length** -/
theorem fold_eq_spec : ∀ (fuel : Nat) (rest : List (String × J)) (acc : J), rest.length ≤ fuel →
    fold acc none rest = spec acc fuel rest
  | _, _, acc, h => fold_eq_spec_of h acc fun _ _ => rfl

end MoSql.Query
