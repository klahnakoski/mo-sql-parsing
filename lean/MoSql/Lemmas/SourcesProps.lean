import MoSql.Sources
/-!
What `_sources` writes is well separated and its brackets match, for every list of sources of any length and any
nesting of groups.
-/
namespace MoSql.Sources

theorem scan_append (st : St) (a b : List Tok) : scan st (a ++ b) = (scan st a).bind (fun st' => scan st' b) := by
  induction a generalizing st with
  | nil => rfl
  | cons t ts ih =>
    simp only [List.cons_append, scan]
    cases step st t with
    | none => rfl
    | some st' => exact ih st'

theorem balancedFrom_append (d : Nat) (a b : List Tok) :
    balancedFrom d (a ++ b) = (balancedFrom d a).bind (fun d' => balancedFrom d' b) := by
  induction a generalizing d with
  | nil => rfl
  | cons t ts ih =>
    cases t with
    | rp => cases d <;> simp [balancedFrom, ih]
    | _ => simp only [List.cons_append, balancedFrom, ih]

/-- a place where a source may stand -/
def St.expecting : St → Bool
  | .closed => false
  | _ => true

theorem scan_cond_closed (c : Cond) : scan .closed (fmtCond c) = some .closed := by
  cases c <;> rfl

theorem balanced_cond (c : Cond) (d : Nat) : balancedFrom d (fmtCond c) = some d := by
  cases c <;> rfl

mutual
  /-- a source, wherever one is expected, leaves the reader behind something complete -/
  theorem scan_fmtSrc : ∀ (s : Src) (st : St), st.expecting = true → scan st (fmtSrc s) = some .closed
    | .tbl n, st, h => by
      cases st with
      | closed => cases h
      | _ => rfl
    | .group items, st, h => by
      have hopen : scan st [.lp] = some .afterOpen := by
        cases st with
        | closed => cases h
        | _ => rfl
      rw [fmtSrc, scan_append, scan_append, hopen]
      rcases scan_fmtItems items [] .afterOpen (.inr rfl) (.inl rfl) with hi | hi <;> (rw [Option.bind_some, hi]; rfl)
  /-- the loop: entered at `e` (the start, or just behind `(`) with nothing written, or with something complete written,
  it ends at `e` with nothing written or behind something complete -/
  theorem scan_fmtItems : ∀ (items : List Item) (acc : List Tok) (e : St), (e = .start ∨ e = .afterOpen) →
      (acc = [] ∨ scan e acc = some .closed) →
      (scan e (fmtItems items acc) = some e ∨ scan e (fmtItems items acc) = some .closed)
    | [], acc, e, _, h => h.imp (fun h => by rw [h]; rfl) id
    | .plain s :: more, acc, e, he, h => by
      refine scan_fmtItems more _ e he (.inr ?_)
      cases acc with
      | nil => exact scan_fmtSrc s e (by rcases he with rfl | rfl <;> rfl)
      | cons a as =>
        rw [if_neg (by simp), scan_append, scan_append, h.resolve_left (List.cons_ne_nil a as)]
        exact scan_fmtSrc s .afterComma rfl
    | .join k s c :: more, acc, e, he, h => by
      refine scan_fmtItems more _ e he (.inr ?_)
      have hj : scan e (acc ++ [.join k]) = some .afterJoin := by
        rcases h with rfl | h
        · rcases he with rfl | rfl <;> rfl
        · rw [scan_append, h]; rfl
      rw [scan_append, scan_append, hj, Option.bind_some, scan_fmtSrc s .afterJoin rfl]
      exact scan_cond_closed c
end

mutual
  theorem balanced_fmtSrc : ∀ (s : Src) (d : Nat), balancedFrom d (fmtSrc s) = some d
    | .tbl n, d => rfl
    | .group items, d => by
      have hopen : balancedFrom d [.lp] = some (d + 1) := rfl
      rw [fmtSrc, balancedFrom_append, balancedFrom_append, hopen, Option.bind_some,
        balanced_fmtItems items [] (d + 1) rfl]
      rfl
  theorem balanced_fmtItems : ∀ (items : List Item) (acc : List Tok) (d : Nat), balancedFrom d acc = some d →
      balancedFrom d (fmtItems items acc) = some d
    | [], acc, d, h => h
    | .plain s :: more, acc, d, h => by
      refine balanced_fmtItems more _ d ?_
      split
      · exact balanced_fmtSrc s d
      · rw [balancedFrom_append, balancedFrom_append, h]
        exact balanced_fmtSrc s d
    | .join k s c :: more, acc, d, h => by
      refine balanced_fmtItems more _ d ?_
      have hj : balancedFrom d (acc ++ [.join k]) = some d := by rw [balancedFrom_append, h]; rfl
      rw [balancedFrom_append, balancedFrom_append, hj, Option.bind_some, balanced_fmtSrc s d]
      exact balanced_cond c d
end

end MoSql.Sources
