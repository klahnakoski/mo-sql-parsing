/-! Facts about lists and tables that several of the theories use and core Lean does not have. -/
namespace MoSql

theorem getD_mem {α : Type} {l : List α} {k : Nat} (d : α) (h : k < l.length) : l.getD k d ∈ l := by
  simp [List.getD, h]

theorem getElem?_idxOf {α : Type} [BEq α] [LawfulBEq α] {a : α} {l : List α} (h : a ∈ l) :
    l[l.idxOf a]? = some a := by
  rw [List.getElem?_eq_getElem (List.idxOf_lt_length_of_mem h), List.getElem_idxOf]

/-- Proves "every entry of `a` is listed in `b`" (`a.all b.contains = true`) for tables that normally coincide: Lean
compares `a` with `b` as terms first, at next to no cost where they agree, and evaluates the search only from where
they differ, so a proper subset `a` still proves and a missing entry still fails; `decide` would tell every pair of
strings apart by evaluation, some thousand kernel steps each. -/
theorem all_contains_self {α : Type _} [BEq α] [LawfulBEq α] (b : List α) : b.all (fun x => b.contains x) = true :=
  List.all_eq_true.mpr fun _ hx => List.contains_iff_mem.mpr hx

end MoSql
