import MoSql.Script
/-! The flatten rule of `_parse` (`accumulate`), then splitting a block on a custom delimiter (`splitBlock`).  The side
condition `wsRun rest = 0` of the splitting lemmas: what follows a newline is the end of the text or a non-blank
character, so that `\s*(\n|$)` ends right behind the newline. -/
namespace MoSql.Script
open MoSql

/-- what a statement's tree looks like to the accumulation loop: a non-empty dict -/
def isStmtTree : J → Bool
  | .obj (_ :: _) => true
  | _ => false

theorem accumulate_stmt {t : J} (h : isStmtTree t = true) (rest : List J) :
    accumulate (t :: rest) = t :: accumulate rest := by
  unfold isStmtTree at h
  split at h
  · rfl
  · cases h

theorem accumulate_lineOutput {l : List J} (h : ∀ t ∈ l, isStmtTree t = true) (rest : List J) :
    accumulate (lineOutput l :: rest) = l ++ accumulate rest := by
  cases l with
  | nil => rfl
  | cons t l =>
    cases l with
    | nil => exact accumulate_stmt (h t List.mem_cons_self) rest
    | cons _ _ => rfl

theorem accumulate_lines (lines : List (List J)) (h : ∀ l ∈ lines, ∀ t ∈ l, isStmtTree t = true) :
    accumulate (lines.map lineOutput) = lines.flatten := by
  induction lines with
  | nil => rfl
  | cons l ls ih =>
    rw [List.map_cons, accumulate_lineOutput (h l List.mem_cons_self), List.flatten_cons,
      ih fun l' hl' => h l' (List.mem_cons_of_mem _ hl')]

theorem isPrefix_self_append (d rest : List Char) : isPrefix d (d ++ rest) = true := by
  induction d with
  | nil => rfl
  | cons c cs ih => simp [isPrefix, ih]

theorem isPrefix_head_ne {d : List Char} {c : Char} (cs : List Char) (hd : d ≠ []) (hc : c ∉ d) :
    isPrefix d (c :: cs) = false := by
  cases d with
  | nil => exact absurd rfl hd
  | cons x xs =>
    have : x ≠ c := fun h => hc (h ▸ List.mem_cons_self)
    simp [isPrefix, this]

theorem enderAt_newline {rest : List Char} (hr : wsRun rest = 0) : enderAt ('\n' :: rest) = some 1 := by
  have hw : wsRun ('\n' :: rest) = 1 := by simp [wsRun, isWs, hr]
  cases rest with
  | nil => rfl
  | cons c cs => simp [enderAt, hw, lastNewlineIn, lastNewlineIn.go]

theorem findSplit_hit {d : List Char} (hd : d ≠ []) {rest : List Char} (hr : wsRun rest = 0)
    (s : List Char) (pos : Nat) (h : ∀ c ∈ s, c ∉ d) :
    findSplit d (s ++ (d ++ '\n' :: rest)) pos = some (pos + s.length, pos + s.length + d.length + 1) := by
  induction s generalizing pos with
  | nil =>
    obtain ⟨x, xs, rfl⟩ := List.exists_cons_of_ne_nil hd
    rw [List.nil_append, List.cons_append, findSplit, ← List.cons_append, if_pos (isPrefix_self_append _ _),
      List.drop_left, enderAt_newline hr]
    rfl
  | cons c cs ih =>
    rw [List.cons_append, findSplit, isPrefix_head_ne _ hd (h c List.mem_cons_self), if_neg Bool.false_ne_true,
      ih (pos + 1) fun x hx => h x (List.mem_cons_of_mem _ hx), Nat.add_right_comm pos 1]
    rfl

theorem splitBlock_cons {d s rest : List Char} (hd : d ≠ []) (hs : ∀ c ∈ s, c ∉ d) (hr : wsRun rest = 0)
    (fuel : Nat) : splitBlock d (fuel + 1) (s ++ (d ++ '\n' :: rest)) = s :: splitBlock d fuel rest := by
  have hdrop : (s ++ (d ++ '\n' :: rest)).drop (s.length + d.length + 1) = rest := by
    rw [Nat.add_assoc, ← List.drop_drop, List.drop_left, ← List.drop_drop, List.drop_left]
    rfl
  rw [splitBlock, findSplit_hit hd hr s 0 hs]
  simp only [Nat.zero_add, List.take_left, hdrop]
  rfl

/-- statements written one per delimiter line -/
def joinD (d : List Char) : List (List Char) → List Char
  | [] => []
  | s :: ss => s ++ (d ++ '\n' :: joinD d ss)

def startsNonWs : List Char → Bool
  | [] => false
  | c :: _ => !isWs c

theorem wsRun_joinD (d : List Char) {ss : List (List Char)} (h : ∀ s ∈ ss, startsNonWs s = true) :
    wsRun (joinD d ss) = 0 := by
  cases ss with
  | nil => rfl
  | cons s rest =>
    cases s with
    | nil => cases h [] List.mem_cons_self
    | cons c cs =>
      have hc : (!isWs c) = true := h _ List.mem_cons_self
      rw [joinD, List.cons_append, wsRun, if_neg (by simpa using hc)]

/-- the final `[]` is the empty remainder, which the real generator also yields (it parses to nothing); one unit of fuel
per statement suffices, the last round needs none -/
theorem splitBlock_joinD {d : List Char} (hd : d ≠ []) {ss : List (List Char)} {fuel : Nat}
    (hf : ss.length ≤ fuel) (h : ∀ s ∈ ss, (∀ c ∈ s, c ∉ d) ∧ startsNonWs s = true) :
    splitBlock d fuel (joinD d ss) = ss ++ [[]] := by
  induction ss generalizing fuel with
  | nil =>
    obtain ⟨x, xs, rfl⟩ := List.exists_cons_of_ne_nil hd
    cases fuel <;> rfl
  | cons s ss ih =>
    match fuel, hf with
    | fuel + 1, hf =>
      have hss := fun x hx => h x (List.mem_cons_of_mem s hx)
      rw [joinD, splitBlock_cons hd (h s List.mem_cons_self).1 (wsRun_joinD d fun x hx => (hss x hx).2),
        ih (Nat.le_of_succ_le_succ hf) hss]
      rfl

/-- every statement adds at least its newline, so the length of the block is fuel enough -/
theorem length_le_length_joinD (d : List Char) (ss : List (List Char)) : ss.length ≤ (joinD d ss).length := by
  induction ss with
  | nil => exact Nat.le_refl 0
  | cons s ss ih =>
    rw [joinD, List.length_append, List.length_append, List.length_cons]
    exact Nat.le_trans (Nat.succ_le_succ ih) (Nat.le_trans (Nat.le_add_left _ _) (Nat.le_add_left _ _))

end MoSql.Script
