import MoSql.Prec
/-!
List-level facts about the four `reduce*` functions of `MoSql.Infix`.

The three levels searched from the left (suffix, binary, ternary) are one function, `scan`, applied to
three different tests of what stands at the front; what is proved of `scan` holds of all three.
-/
namespace MoSql.Infix
variable {V : Type}

@[simp] theorem isOp_val (id : Nat) (v : V) : (Item.val v).isOp id = false := rfl
@[simp] theorem isOp_op (id : Nat) (t : Tok V) : (Item.op t).isOp id = (t.id == id) := rfl

/-- no item of `xs` is an operator token with identity `id` -/
def NoTok (id : Nat) (xs : List (Item V)) : Prop := ∀ x ∈ xs, x.isOp id = false

@[simp] theorem noTok_nil (id : Nat) : NoTok id ([] : List (Item V)) := List.forall_mem_nil _

@[simp] theorem noTok_cons {id : Nat} {x : Item V} {xs : List (Item V)} :
    NoTok id (x :: xs) ↔ x.isOp id = false ∧ NoTok id xs := List.forall_mem_cons

@[simp] theorem noTok_append {id : Nat} {xs ys : List (Item V)} :
    NoTok id (xs ++ ys) ↔ NoTok id xs ∧ NoTok id ys := List.forall_mem_append

theorem NoTok.append {id : Nat} {xs ys : List (Item V)}
    (h1 : NoTok id xs) (h2 : NoTok id ys) : NoTok id (xs ++ ys) := noTok_append.2 ⟨h1, h2⟩

theorem NoTok.left {id : Nat} {xs ys : List (Item V)} (h : NoTok id (xs ++ ys)) : NoTok id xs :=
  (noTok_append.1 h).1

theorem NoTok.right {id : Nat} {xs ys : List (Item V)} (h : NoTok id (xs ++ ys)) : NoTok id ys :=
  (noTok_append.1 h).2

/-- the first tail of the list on which `f` answers is replaced by the answer; what stands in front of it stays -/
def scan (f : List (Item V) → Option (List (Item V))) : List (Item V) → Option (List (Item V))
  | [] => none
  | x :: xs =>
    match f (x :: xs) with
    | some r => some r
    | none => (scan f xs).map (x :: ·)

/-- `f` answers only on a list whose second item is an operator token `id`, and then with a shorter list -/
structure Keyed (id : Nat) (f : List (Item V) → Option (List (Item V))) : Prop where
  one : ∀ x, f [x] = none
  two : ∀ x y rest, y.isOp id = false → f (x :: y :: rest) = none
  short : ∀ xs r, f xs = some r → r.length < xs.length

section
variable {id : Nat} {f : List (Item V) → Option (List (Item V))} (hk : Keyed id f)
include hk

theorem scan_none (xs : List (Item V)) (h : NoTok id xs) : scan f xs = none := by
  induction xs with
  | nil => rfl
  | cons x xs ih =>
    rw [noTok_cons] at h
    have hx : f (x :: xs) = none := by
      cases xs with
      | nil => exact hk.one x
      | cons y xs => exact hk.two x y xs (noTok_cons.1 h.2).1
    rw [scan, hx, ih h.2]; rfl

/-- the leftmost occurrence is the one rewritten: nothing in front of it answers -/
theorem scan_hit {y : Item V} {t r : List (Item V)} (hy : y.isOp id = false) (hit : f (y :: t) = some r)
    (Lf : List (Item V)) (h : NoTok id Lf) : scan f (Lf ++ y :: t) = some (Lf ++ r) := by
  induction Lf with
  | nil => rw [List.nil_append, scan, hit]; rfl
  | cons x Lf ih =>
    rw [noTok_cons] at h
    have hx : f (x :: (Lf ++ y :: t)) = none := by
      cases Lf with
      | nil => exact hk.two x _ t hy
      | cons z Lf => exact hk.two x z _ (noTok_cons.1 h.2).1
    rw [List.cons_append, scan, hx, ih h.2]; rfl

theorem scan_length (xs r : List (Item V)) (h : scan f xs = some r) : r.length < xs.length := by
  induction xs generalizing r with
  | nil => cases h
  | cons x xs ih =>
    simp only [scan] at h
    split at h
    · rename_i r' hr; cases h; exact hk.short _ _ hr
    · obtain ⟨r', hr, rfl⟩ := Option.map_eq_some_iff.mp h
      exact Nat.succ_lt_succ (ih r' hr)

end

def frontSuf (B : Builders V) (L : Level) : List (Item V) → Option (List (Item V))
  | a :: .op t :: rest => if t.id == L.id0 then some (.val (B.mkSuf L a.asVal t) :: rest) else none
  | _ => none

def frontBin (B : Builders V) (L : Level) : List (Item V) → Option (List (Item V))
  | a :: .op t :: b :: rest =>
    if t.id == L.id0 then some (.val (B.mkBin L a.asVal t b.asVal) :: rest) else none
  | _ => none

def frontTern (B : Builders V) (L : Level) : List (Item V) → Option (List (Item V))
  | a :: .op t0 :: b :: .op t1 :: c :: rest =>
    if t0.id == L.id0 && t1.id == L.id1 then
      some (.val (B.mkTern L a.asVal t0 b.asVal t1 c.asVal) :: rest)
    else none
  | _ => none

variable (B : Builders V) (L : Level)

theorem reduceSuf_eq_scan (xs : List (Item V)) : reduceSuf B L xs = scan (frontSuf B L) xs := by
  induction xs with
  | nil => rfl
  | cons a xs ih =>
    rw [scan, ← ih]
    match xs with
    | [] => rfl
    | .val _ :: _ => rfl
    | .op t :: _ => cases h : t.id == L.id0 <;> simp only [reduceSuf, frontSuf, h] <;> rfl

theorem reduceBin_eq_scan (xs : List (Item V)) : reduceBin B L xs = scan (frontBin B L) xs := by
  induction xs with
  | nil => rfl
  | cons a xs ih =>
    rw [scan, ← ih]
    match xs with
    | [] => rfl
    | [_] => simp [reduceBin, frontBin]
    | .val _ :: _ :: _ => rfl
    | .op t :: _ :: _ => cases h : t.id == L.id0 <;> simp only [reduceBin, frontBin, h] <;> rfl

theorem reduceTern_eq_scan (xs : List (Item V)) : reduceTern B L xs = scan (frontTern B L) xs := by
  induction xs with
  | nil => rfl
  | cons a xs ih =>
    rw [scan, ← ih]
    match xs with
    | [] => rfl
    | [_] | [_, _] | [_, _, _] => simp [reduceTern, frontTern]
    | .val _ :: _ :: _ :: _ :: _ => rfl
    | .op _ :: _ :: .val _ :: _ :: _ => rfl
    | .op t0 :: _ :: .op t1 :: _ :: _ =>
      cases h : t0.id == L.id0 && t1.id == L.id1 <;> simp only [reduceTern, frontTern, h] <;> rfl

theorem keyed_frontSuf : Keyed L.id0 (frontSuf B L) where
  one _ := rfl
  two x y rest h := by cases y <;> simp_all [frontSuf]
  short xs r h := by
    unfold frontSuf at h
    split at h
    · split at h <;> cases h
      simp
    · cases h

theorem keyed_frontBin : Keyed L.id0 (frontBin B L) where
  one _ := rfl
  two x y rest h := by cases y <;> cases rest <;> simp_all [frontBin]
  short xs r h := by
    unfold frontBin at h
    split at h
    · split at h <;> cases h
      simp
    · cases h

theorem keyed_frontTern : Keyed L.id0 (frontTern B L) where
  one _ := rfl
  two x y rest h := by
    unfold frontTern
    split
    · rename_i e; cases e; simp_all
    · rfl
  short xs r h := by
    unfold frontTern at h
    split at h
    · split at h <;> cases h
      simp
    · cases h

theorem reducePre_none (xs : List (Item V)) (h : NoTok L.id0 xs) : reducePre B L xs = none := by
  fun_induction reducePre B L xs with
  | case1 _ _ _ _ hr ih => cases hr.symm.trans (ih (noTok_cons.1 h).2)   -- a reduction further to the right
  | case2 _ _ _ _ ht => cases ht.symm.trans (noTok_cons.1 h).1           -- the operator stands at the front
  | case3 | case4 | case5 => rfl                                         -- another token, a value, fewer than two items

theorem reduce_none (xs : List (Item V)) (h : NoTok L.id0 xs) : reduce B L xs = none := by
  unfold reduce
  cases L.kind
  · exact reducePre_none B L xs h
  · rw [reduceSuf_eq_scan]; exact scan_none (keyed_frontSuf B L) xs h
  · rw [reduceBin_eq_scan]; exact scan_none (keyed_frontBin B L) xs h
  · rw [reduceTern_eq_scan]; exact scan_none (keyed_frontTern B L) xs h

section
variable {L} (Lf R : List (Item V))

/- Whatever stands next to the operator is taken as its operand (`Item.asVal`): the reducers do not check that it is
a value. -/

theorem reduce_suf_hit (hk : L.kind = .suf) {a : Item V} {t : Tok V} (ht : L.id0 = t.id)
    (hno : NoTok L.id0 Lf) (ha : a.isOp L.id0 = false) :
    reduce B L (Lf ++ a :: .op t :: R) = some (Lf ++ .val (B.mkSuf L a.asVal t) :: R) := by
  rw [reduce, hk, reduceSuf_eq_scan]
  exact scan_hit (keyed_frontSuf B L) ha (by simp [frontSuf, ht]) Lf hno

theorem reduce_bin_hit (hk : L.kind = .bin) {a b : Item V} {t : Tok V} (ht : L.id0 = t.id)
    (hno : NoTok L.id0 Lf) (ha : a.isOp L.id0 = false) :
    reduce B L (Lf ++ a :: .op t :: b :: R) = some (Lf ++ .val (B.mkBin L a.asVal t b.asVal) :: R) := by
  rw [reduce, hk, reduceBin_eq_scan]
  exact scan_hit (keyed_frontBin B L) ha (by simp [frontBin, ht]) Lf hno

theorem reduce_tern_hit (hk : L.kind = .tern) {a b c : Item V} {t0 t1 : Tok V} (h0 : L.id0 = t0.id)
    (h1 : L.id1 = t1.id) (hno : NoTok L.id0 Lf) (ha : a.isOp L.id0 = false) :
    reduce B L (Lf ++ a :: .op t0 :: b :: .op t1 :: c :: R)
      = some (Lf ++ .val (B.mkTern L a.asVal t0 b.asVal t1 c.asVal) :: R) := by
  rw [reduce, hk, reduceTern_eq_scan]
  exact scan_hit (keyed_frontTern B L) ha (by simp [frontTern, h0, h1]) Lf hno

theorem reduce_pre_hit (hk : L.kind = .pre) {b : Item V} {t : Tok V} (ht : L.id0 = t.id)
    (hno : NoTok L.id0 R) (hb : b.isOp L.id0 = false) :
    reduce B L (Lf ++ .op t :: b :: R) = some (Lf ++ .val (B.mkPre L t b.asVal) :: R) := by
  rw [reduce, hk]
  induction Lf with
  | nil =>
    have hn : reducePre B L (b :: R) = none := reducePre_none B L _ (by simp [hno, hb])
    simp [reducePre, hn, ht]
  | cons x Lf ih =>
    cases h : Lf ++ .op t :: b :: R with
    | nil => simp at h
    | cons z zs => rw [h] at ih; simp only [List.cons_append, h, reducePre, ih]

end

theorem reducePre_length (xs ys : List (Item V)) (h : reducePre B L xs = some ys) : ys.length < xs.length := by
  fun_induction reducePre B L xs generalizing ys with
  | case1 _ _ _ r hr ih => cases h; exact Nat.succ_lt_succ (ih r hr)   -- cases as in `reducePre_none`
  | case2 => cases h; simp
  | case3 | case4 | case5 => cases h

theorem reduce_length (xs ys : List (Item V)) (h : reduce B L xs = some ys) : ys.length < xs.length := by
  unfold reduce at h
  cases hk : L.kind <;> rw [hk] at h
  · exact reducePre_length B L xs ys h
  · exact scan_length (keyed_frontSuf B L) xs ys (reduceSuf_eq_scan B L xs ▸ h)
  · exact scan_length (keyed_frontBin B L) xs ys (reduceBin_eq_scan B L xs ▸ h)
  · exact scan_length (keyed_frontTern B L) xs ys (reduceTern_eq_scan B L xs ▸ h)

end MoSql.Infix
