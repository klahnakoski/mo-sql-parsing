import MoSql.Brackets
import MoSql.Expr
/-!
`net` (opening minus closing brackets) is 0 on a balanced list and additive, so an edit that changes it leaves the
balanced language.  A `Seg` is a stretch that can be skipped at any depth; the written form of an expression is one.
-/
namespace MoSql.Brackets

theorem balFrom_net (ts : List Tk) (d : Nat) (h : balFrom d ts = true) : (d : Int) + net ts = 0 := by
  induction ts generalizing d with
  | nil => simpa [balFrom, net] using h
  | cons t ts ih =>
    cases t with
    | lb => have := ih (d + 1) h; simp only [net, w]; omega
    | rb =>
      cases d with
      | zero => cases h
      | succ d => have := ih d h; simp only [net, w]; omega
    | other => have := ih d h; simp only [net, w]; omega

theorem balanced_net (ts : List Tk) (h : balanced ts = true) : net ts = 0 :=
  (Int.zero_add _).symm.trans (balFrom_net ts 0 h)

theorem not_balanced_of_net_ne_zero {ts : List Tk} (h : net ts ≠ 0) : balanced ts = false :=
  Bool.eq_false_iff.mpr fun hb => h (balanced_net ts hb)

theorem w_ne_zero {t : Tk} (h : t ≠ .other) : w t ≠ 0 := by
  cases t with
  | other => exact absurd rfl h
  | _ => decide

theorem net_append (a b : List Tk) : net (a ++ b) = net a + net b := by
  induction a with
  | nil => exact (Int.zero_add _).symm
  | cons t ts ih => simp only [List.cons_append, net, ih, Int.add_assoc]

theorem net_eraseIdx (ts : List Tk) (i : Nat) (h : i < ts.length) :
    net (ts.eraseIdx i) = net ts - w (ts[i]'h) := by
  induction ts generalizing i with
  | nil => cases h
  | cons t ts ih =>
    cases i with
    | zero => simp only [List.eraseIdx, net, List.getElem_cons_zero]; omega
    | succ i =>
      simp only [List.eraseIdx, net, List.getElem_cons_succ, ih i (Nat.lt_of_succ_lt_succ h)]; omega

/-- a self-contained balanced segment: it can be skipped at any depth, whatever follows -/
def Seg (xs : List Tk) : Prop := ∀ d ys, balFrom d (xs ++ ys) = balFrom d ys

theorem Seg.nil : Seg [] := fun _ _ => rfl
theorem Seg.other : Seg [.other] := fun _ _ => rfl
theorem Seg.append {a b : List Tk} (ha : Seg a) (hb : Seg b) : Seg (a ++ b) := fun d ys => by
  rw [List.append_assoc, ha, hb]
theorem Seg.wrap {a : List Tk} (ha : Seg a) : Seg (.lb :: (a ++ [.rb])) := fun d ys => by
  rw [List.cons_append, List.append_assoc]
  exact ha (d + 1) _
theorem Seg.cons_other {a : List Tk} (ha : Seg a) : Seg (.other :: a) :=
  Seg.append Seg.other ha
theorem Seg.balanced {a : List Tk} (ha : Seg a) : balanced a = true := by
  have := ha 0 []; rwa [List.append_nil] at this

end MoSql.Brackets

namespace MoSql.E
open MoSql.Brackets

/- token classes of the written form of an expression (one `other` per non-bracket token) -/
mutual
def tks : E → List Tk
  | .atom _ _ => [.other]
  | .paren e => .lb :: (tks e ++ [.rb])
  | .call _ args => .other :: .lb :: (tksList args ++ [.rb])
  | .pre _ e => .other :: tks e
  | .cast _ e _ => tks e ++ [.other, .other]
  | .bin _ l r => tks l ++ .other :: tks r
  | .tern _ a b c => tks a ++ .other :: (tks b ++ .other :: tks c)
def tksList : List E → List Tk
  | [] => []
  | e :: es => tks e ++ .other :: tksList es
end

mutual
theorem tks_seg : ∀ e : E, Seg (tks e)
  | .atom _ _ => Seg.other
  | .paren e => (tks_seg e).wrap
  | .call _ args => (tksList_seg args).wrap.cons_other
  | .pre _ e => (tks_seg e).cons_other
  | .cast _ e _ => (tks_seg e).append Seg.other.cons_other
  | .bin _ l r => (tks_seg l).append (tks_seg r).cons_other
  | .tern _ a b c => (tks_seg a).append ((tks_seg b).append (tks_seg c).cons_other).cons_other
theorem tksList_seg : ∀ es : List E, Seg (tksList es)
  | [] => Seg.nil
  | e :: es => (tks_seg e).append (tksList_seg es).cons_other
end

end MoSql.E
