import MoSql.Lemmas.ScrubBasic
/-! Facts about the model of `scrub` / `null_locations` that hold for EVERY raw tree: `null=X` is substitution into the
default result (`finalize_subst`), the result under `simple_op` is well shaped (`ws_scrub`), and after substitution
nothing internal is left (`noInternal_finalize`).  `normalShape`, at the end, is the shape of a `normal_op` node (C12). -/
namespace MoSql.Scrub
open MoSql

def isNullNode : J → Bool
  | .obj [("null", .obj [])] => true
  | _ => false

mutual
def substNull (x : J) : J → J
  | .obj kvs => if isNullNode (.obj kvs) then x else .obj (substKvs x kvs)
  | .arr xs => .arr (substList x xs)
  | j => j
def substList (x : J) : List J → List J
  | [] => []
  | j :: js => substNull x j :: substList x js
def substKvs (x : J) : List (String × J) → List (String × J)
  | [] => []
  | (k, j) :: rest => (k, substNull x j) :: substKvs x rest
end

mutual
def noNullNode : J → Bool
  | .obj kvs => !isNullNode (.obj kvs) && noNullKvs kvs
  | .arr xs => noNullList xs
  | _ => true
def noNullList : List J → Bool
  | [] => true
  | j :: js => noNullNode j && noNullList js
def noNullKvs : List (String × J) → Bool
  | [] => true
  | (_, j) :: rest => noNullNode j && noNullKvs rest
end

theorem isNullNode_iff {j : J} : isNullNode j = true ↔ j = sqlNullNode := by
  unfold isNullNode sqlNullNode
  split <;> simp_all

theorem finalize_obj_empty {x : J} (hx : x ≠ .obj []) (j : J) (h : finalize x j = .obj []) :
    j = .obj [] := by
  cases j with
  | marker b =>
    cases b
    · cases h
    · exact absurd h hx
  | obj kvs =>
    cases kvs with
    | nil => rfl
    | cons kv _ => cases kv; cases h
  | _ => cases h

theorem finalizeKvs_eq_nullNode {x : J} (hx : x ≠ .obj []) : ∀ kvs : List (String × J),
    finalizeKvs x kvs = [("null", .obj [])] → kvs = [("null", .obj [])]
  | [], h => nomatch h
  | [(k, v)], h => by
    simp only [finalizeKvs, List.cons.injEq, Prod.mk.injEq, and_true] at h
    rw [h.1, finalize_obj_empty hx v h.2]
  | (_, _) :: (_, _) :: _, h => by simp [finalizeKvs] at h

theorem isNullNode_finalize {x : J} (hx : x ≠ .obj []) (kvs : List (String × J))
    (h : isNullNode (.obj kvs) = false) : isNullNode (.obj (finalizeKvs x kvs)) = false := by
  refine Bool.eq_false_iff.mpr fun h' => Bool.eq_false_iff.mp h ?_
  rw [isNullNode_iff] at h' ⊢
  exact congrArg J.obj (finalizeKvs_eq_nullNode hx kvs (J.obj.inj h'))

mutual
theorem finalize_subst (x : J) : ∀ j : J, noNullNode j = true →
    finalize x j = substNull x (finalize sqlNullNode j) := by
  intro j h
  cases j with
  | marker b =>
    cases b
    · rfl
    · show x = substNull x sqlNullNode
      rfl
  | arr xs => exact congrArg J.arr (finalizeList_subst x xs h)
  | obj kvs =>
    simp only [noNullNode, Bool.and_eq_true, Bool.not_eq_true'] at h
    simp only [finalize, substNull, isNullNode_finalize (x := sqlNullNode) nofun kvs h.1,
      Bool.false_eq_true, if_false]
    exact congrArg J.obj (finalizeKvs_subst x kvs h.2)
  | _ => rfl
theorem finalizeList_subst (x : J) : ∀ js : List J, noNullList js = true →
    finalizeList x js = substList x (finalizeList sqlNullNode js)
  | [], _ => rfl
  | j :: js, h => by
    have h := Bool.and_eq_true_iff.mp h
    simp only [finalizeList, substList, finalize_subst x j h.1, finalizeList_subst x js h.2]
theorem finalizeKvs_subst (x : J) : ∀ kvs : List (String × J), noNullKvs kvs = true →
    finalizeKvs x kvs = substKvs x (finalizeKvs sqlNullNode kvs)
  | [], _ => rfl
  | (k, j) :: rest, h => by
    have h := Bool.and_eq_true_iff.mp h
    simp only [finalizeKvs, substKvs, finalize_subst x j h.1, finalizeKvs_subst x rest h.2]
end

mutual
/-- simplified form, and every NULL placeholder sits in a recorded slot: no leaked `Call`,
no list with fewer than two elements, no `None` inside a list or as a dict value -/
def wellShaped : J → Bool
  | .arr xs => decide (2 ≤ xs.length) && wsList xs
  | .obj kvs => wsKvs kvs
  | .marker b => b
  | .opaque _ => false
  | _ => true
def wsList : List J → Bool
  | [] => true
  | j :: js => !j.isNull && wellShaped j && wsList js
def wsKvs : List (String × J) → Bool
  | [] => true
  | (_, j) :: rest => !j.isNull && wellShaped j && wsKvs rest
end

/-- what `scrub` may return to its caller: a well-shaped value, or the bare placeholder (whose
slot the caller records) -/
def wsOrBare (j : J) : Bool := j.isMarker || wellShaped j

mutual
def noCrash : Raw → Bool
  | .crash _ => false
  | .call _ args kw => noCrash args && noCrashKw kw
  | .list xs => noCrashList xs
  | .grp r => noCrash r
  | .dict kvs => noCrashKw kvs
  | _ => true
def noCrashList : List Raw → Bool
  | [] => true
  | r :: rs => noCrash r && noCrashList rs
def noCrashKw : List (String × Raw) → Bool
  | [] => true
  | (_, r) :: rest => noCrash r && noCrashKw rest
end

theorem wsOrBare_of_wellShaped {j : J} (h : wellShaped j = true) : wsOrBare j = true :=
  Bool.or_eq_true_iff.mpr (.inr h)

theorem wsKvs_iff {kvs : List (String × J)} :
    wsKvs kvs = true ↔ ∀ x ∈ kvs, x.2.isNull = false ∧ wellShaped x.2 = true := by
  induction kvs with
  | nil => simp [wsKvs]
  | cons _ _ ih => simp only [wsKvs, List.forall_mem_cons, Bool.and_eq_true, Bool.not_eq_true', ih]

theorem ws_mark {j : J} (h : wsOrBare j = true) : wellShaped (mark j) = true := by
  cases j with
  | marker => rfl
  | _ => exact h

theorem wsList_map_mark (ys : List J) (h : ∀ y ∈ ys, wsOrBare y = true ∧ y.isNull = false) :
    wsList (ys.map mark) = true := by
  induction ys with
  | nil => rfl
  | cons y ys ih =>
    have ⟨hy, hys⟩ := List.forall_mem_cons.mp h
    simp only [List.map, wsList, Bool.and_eq_true, Bool.not_eq_true', mark_isNull]
    exact ⟨⟨hy.2, ws_mark hy.1⟩, ih hys⟩

theorem ws_pack : ∀ ys : List J, (∀ y ∈ ys, wsOrBare y = true ∧ y.isNull = false) →
    wsOrBare (pack ys) = true
  | [], _ => rfl
  | [x], h => (h x List.mem_cons_self).1
  | x :: y :: rest, h => by simpa [pack, wsOrBare, wellShaped, J.isMarker] using wsList_map_mark _ h

theorem ws_collapse (xs : List J) (h : ∀ x ∈ xs, wsOrBare x = true) : wsOrBare (collapse xs) = true :=
  ws_pack _ fun y hy => ⟨h y (List.mem_filter.mp hy).1, by simpa using (List.mem_filter.mp hy).2⟩

theorem ws_simpleArg {a : J} (h : wsOrBare a = true) :
    (simpleArg a).isNull = false ∧ wellShaped (simpleArg a) = true := by
  unfold simpleArg
  cases hn : a.isNull
  · exact ⟨(mark_isNull a).trans hn, ws_mark h⟩
  · exact ⟨rfl, rfl⟩

theorem ws_applyOp_simple (c : Cfg) (hc : c.mode = Mode.simple) (op : String) (a : J)
    (kw : List (String × J)) (ha : wsOrBare a = true) (hk : wsKvs kw = true) :
    wellShaped (applyOp c op a kw) = true := by
  rw [applyOp_simple hc]
  refine wsKvs_iff.mpr fun x hx => ?_
  have : x ∈ kw ∨ x.2 = simpleArg a := by
    split at hx
    · exact mem_setKey hx
    · exact mem_setKeySlot hx
  exact this.elim (wsKvs_iff.mp hk x) (· ▸ ws_simpleArg ha)

mutual
theorem ws_scrub (c : Cfg) (hc : c.mode = Mode.simple) : ∀ r : Raw, noCrash r = true →
    wsOrBare (scrub c r) = true := by
  intro r h
  cases r with
  | call op args kw =>
    have h := Bool.and_eq_true_iff.mp h
    exact wsOrBare_of_wellShaped <|
      ws_applyOp_simple c hc op _ _ (ws_scrub c hc args h.1) (ws_scrubKw c hc kw h.2)
  | list xs => exact ws_collapse _ (ws_scrubList c hc xs h)
  | grp r => exact scrub_grp c r ▸ ws_scrub c hc r h
  | dict kvs => exact wsOrBare_of_wellShaped (ws_scrubKw c hc kvs h)
  | crash => cases h
  | _ => rfl
theorem ws_scrubList (c : Cfg) (hc : c.mode = Mode.simple) : ∀ rs : List Raw, noCrashList rs = true →
    ∀ x ∈ scrubList c rs, wsOrBare x = true
  | [], _ => nofun
  | r :: rs, h =>
    have h := Bool.and_eq_true_iff.mp h
    List.forall_mem_cons.mpr ⟨ws_scrub c hc r h.1, ws_scrubList c hc rs h.2⟩
theorem ws_scrubKw (c : Cfg) (hc : c.mode = Mode.simple) : ∀ kvs : List (String × Raw),
    noCrashKw kvs = true → wsKvs (scrubKw c kvs) = true
  | [], _ => rfl
  | (k, r) :: rest, h => by
    have h := Bool.and_eq_true_iff.mp h
    have ih := ws_scrubKw c hc rest h.2
    cases hn : (scrub c r).isNull
    · rw [scrubKw_cons hn, wsKvs, mark_isNull, hn, ws_mark (ws_scrub c hc r h.1), ih]
      rfl
    · rwa [scrubKw_cons_null hn]
end


mutual
/-- no library-internal object and no unsubstituted placeholder anywhere -/
def noInternal : J → Bool
  | .arr xs => noInternalList xs
  | .obj kvs => noInternalKvs kvs
  | .marker _ => false
  | .opaque _ => false
  | _ => true
def noInternalList : List J → Bool
  | [] => true
  | j :: js => noInternal j && noInternalList js
def noInternalKvs : List (String × J) → Bool
  | [] => true
  | (_, j) :: rest => noInternal j && noInternalKvs rest
end

mutual
theorem noInternal_finalize (x : J) (hx : noInternal x = true) : ∀ j : J, wellShaped j = true →
    noInternal (finalize x j) = true := by
  intro j h
  cases j with
  | marker b =>
    cases b
    · cases h
    · exact hx
  | arr xs => exact noInternal_finalizeList x hx xs (Bool.and_eq_true_iff.mp h).2
  | obj kvs => exact noInternal_finalizeKvs x hx kvs h
  | «opaque» => cases h
  | _ => rfl
theorem noInternal_finalizeList (x : J) (hx : noInternal x = true) : ∀ js : List J, wsList js = true →
    noInternalList (finalizeList x js) = true
  | [], _ => rfl
  | j :: js, h =>
    have h := Bool.and_eq_true_iff.mp h
    Bool.and_eq_true_iff.mpr
      ⟨noInternal_finalize x hx j (Bool.and_eq_true_iff.mp h.1).2, noInternal_finalizeList x hx js h.2⟩
theorem noInternal_finalizeKvs (x : J) (hx : noInternal x = true) : ∀ kvs : List (String × J),
    wsKvs kvs = true → noInternalKvs (finalizeKvs x kvs) = true
  | [], _ => rfl
  | (_, j) :: rest, h =>
    have h := Bool.and_eq_true_iff.mp h
    Bool.and_eq_true_iff.mpr
      ⟨noInternal_finalize x hx j (Bool.and_eq_true_iff.mp h.1).2, noInternal_finalizeKvs x hx rest h.2⟩
end

/-- shape of a node written by `normal_op` -/
def normalShape : J → Bool
  | .obj (("op", .str _) :: rest) =>
    match rest with
    | [] => true
    | [("args", .arr (_ :: _))] => true
    | [("kwargs", .obj (_ :: _))] => true
    | [("args", .arr (_ :: _)), ("kwargs", .obj (_ :: _))] => true
    | _ => false
  | _ => false

theorem normalShape_normalNode (name : String) (args : List J) (kw : List (String × J)) :
    normalShape (normalNode name args kw) = true := by
  cases args <;> cases kw <;> rfl

end MoSql.Scrub
