import MoSql.Lemmas.InfixCorrect
/-!
Inputs on which `make_tree` answers and leaves items behind.  A reducer takes whatever stands next to its operator
as the operand, so an operator token of a LOOSER level that stands where a tighter operator expects an operand is
consumed as if it were a value; what it should have applied to is left over.
-/
namespace MoSql.Infix
variable {V : Type} (B : Builders V)

theorem firstReduce_none (lv : List Level) (xs : List (Item V)) (h : ∀ L ∈ lv, NoTok L.id0 xs) :
    firstReduce B lv xs = none := by
  rw [firstReduce_eq_findSome?, List.findSome?_eq_none_iff]
  exact fun L hL => reduce_none B L xs (h L hL)

/-- one reduction after which no operator token is left ends the loop -/
theorem makeTree_of_step {lv : List Level} {x : Item V} {xs rest : List (Item V)} {v : V}
    (h : firstReduce B lv (x :: xs) = some (.val v :: rest)) (hrest : ∀ L ∈ lv, NoTok L.id0 rest) :
    makeTree B lv (x :: xs) = ⟨some v, rest⟩ := by
  have hn := firstReduce_none B lv (.val v :: rest) fun L hL => by simp [hrest L hL]
  simp [makeTree, run, h, run_none hn, Item.asVal]

variable {lv : List Level} (hOK : LevelsOK lv) {i j : Nat} {li lj : Level}
  (hi : lv[i]? = some li) (hj : lv[j]? = some lj) (hij : i < j)
include hOK hi hj hij

/-- level `i` is the first that reduces a list whose only operator tokens are one of level `i` and one of a looser
level `j` -/
theorem firstReduce_two {ti tj : Tok V} (hti : li.id0 = ti.id) (htj : lj.id0 = tj.id) {xs r : List (Item V)}
    (hxs : ∀ L : Level, (ti.id == L.id0) = false → (tj.id == L.id0) = false → NoTok L.id0 xs)
    (hr : reduce B li xs = some r) : firstReduce B lv xs = some r :=
  firstReduce_at B hi hr fun _ Lm hm hLm =>
    reduce_none B Lm xs (hxs Lm (id0_ne hOK hLm hi hti (Nat.ne_of_lt hm))
      (id0_ne hOK hLm hj htj (Nat.ne_of_lt (Nat.lt_trans hm hij))))

/-- **a tighter suffix operator behind a looser one** takes the looser operator's token for its operand; the real
operand is answered bare and the result of the suffix is left over -/
theorem suffix_behind_looser (ki : li.kind = .suf) (a : V) {ti tj : Tok V} (hti : li.id0 = ti.id)
    (htj : lj.id0 = tj.id) :
    makeTree B lv [.val a, .op tj, .op ti] = ⟨some a, [.val (B.mkSuf li tj.payload ti)]⟩ := by
  refine makeTree_of_step B (firstReduce_two B hOK hi hj hij hti htj ?_ ?_) fun _ _ => by simp
  · intro L h1 h2; simp [h1, h2]
  · exact reduce_suf_hit B [.val a] [] ki hti (by simp) (id0_ne hOK hi hj htj (Nat.ne_of_lt hij))

/-- **a looser operator right of a tighter binary one** is taken for the right operand; what it should have applied
to is left over -/
theorem looser_right_of_binary (ki : li.kind = .bin) (a c : V) {ti tj : Tok V} (hti : li.id0 = ti.id)
    (htj : lj.id0 = tj.id) :
    makeTree B lv [.val a, .op ti, .op tj, .val c] = ⟨some (B.mkBin li a ti tj.payload), [.val c]⟩ := by
  refine makeTree_of_step B (firstReduce_two B hOK hi hj hij hti htj ?_ ?_) fun _ _ => by simp
  · intro L h1 h2; simp [h1, h2]
  · exact reduce_bin_hit B [] [.val c] ki hti (by simp) rfl

end MoSql.Infix
