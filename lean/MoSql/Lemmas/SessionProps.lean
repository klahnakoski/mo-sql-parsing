import MoSql.Session
/-! Calls one after the other: a program that resets before use observes only what it has set itself (`run_indep`), and
a cache whose entries are what `build` makes for their keys stays such (`CacheOK`). -/
namespace MoSql.Session

theorem run_indep (a : String → Val) {d : List String} {p : List Instr} (h : resetBeforeUse d p = true)
    {s₁ s₂ : Store} (hd : ∀ g ∈ d, s₁ g = s₂ g) (tr : List Val) :
    (run a p s₁ tr).2 = (run a p s₂ tr).2 := by
  fun_induction resetBeforeUse d p generalizing s₁ s₂ tr with   -- cases: end of the program, `set g`, `use g`, any other
  | case1 => rfl
  | case2 d g p ih =>
    refine ih h (fun x hx => ?_) tr
    by_cases hxg : x = g
    · simp [hxg]
    · simpa [hxg] using hd x ((List.mem_cons.mp hx).resolve_left hxg)
  | case3 d g p ih =>
    simp only [Bool.and_eq_true, List.contains_iff_mem] at h
    simp only [run, hd g h.1]
    exact ih h.2 hd _
  | case4 d i p h1 h2 ih =>
    rw [run.eq_4 _ _ _ _ _ h1 h2, run.eq_4 _ _ _ _ _ h1 h2]
    exact ih h hd tr

theorem rbu_mono {d d' : List String} {p : List Instr} (hs : d ⊆ d')
    (h : resetBeforeUse d p = true) : resetBeforeUse d' p = true := by
  fun_induction resetBeforeUse d p generalizing d' with
  | case1 => rfl
  | case2 d g p ih => exact ih (List.cons_subset_cons g hs) h
  | case3 d g p ih =>
    simp only [resetBeforeUse, Bool.and_eq_true, List.contains_iff_mem] at h ⊢
    exact ⟨hs h.1, ih hs h.2⟩
  | case4 d i p h1 h2 ih =>
    rw [resetBeforeUse.eq_4 _ _ _ h1 h2]
    exact ih hs h

theorem rbu_append {d : List String} {p q : List Instr}
    (hp : resetBeforeUse d p = true) (hq : resetBeforeUse [] q = true) : resetBeforeUse d (p ++ q) = true := by
  fun_induction resetBeforeUse d p with
  | case1 d => exact rbu_mono (List.nil_subset d) hq
  | case2 d g p ih => exact ih hp
  | case3 d g p ih =>
    simp only [List.cons_append, resetBeforeUse, Bool.and_eq_true] at hp ⊢
    exact ⟨hp.1, ih hp.2⟩
  | case4 d i p h1 h2 ih =>
    rw [List.cons_append, resetBeforeUse.eq_4 _ _ _ h1 h2]
    exact ih hp

/-- a script of `n` lines runs the body `n` times -/
def loop (body : List Instr) : Nat → List Instr
  | 0 => []
  | n + 1 => body ++ loop body n

/-- cache invariant: whatever is cached under a key is what `build` makes for that key -/
def CacheOK (build : Key → Parser) (c : Key → Option Parser) : Prop := ∀ k p, c k = some p → p = build k

theorem cacheOK_init (build : Key → Parser) (s0 : Store) : CacheOK build (init s0).cache :=
  fun _ _ h => nomatch h

theorem lookup_ok {build : Key → Parser} {c : Key → Option Parser} (h : CacheOK build c) (k : Key) :
    (lookup build c k).1 = build k ∧ CacheOK build (lookup build c k).2 := by
  unfold lookup
  cases hk : c k with
  | some p => exact ⟨h k p hk, h⟩
  | none =>
    refine ⟨rfl, fun k' p' hp => ?_⟩
    by_cases e : k' = k
    · simpa [e] using hp.symm
    · exact h k' p' (by simpa [e] using hp)

theorem after_cacheOK {build : Key → Parser} (cs : List Call) {s : State} (h : CacheOK build s.cache) :
    CacheOK build (after build s cs).cache := by
  induction cs generalizing s with
  | nil => exact h
  | cons c cs ih => exact ih (s := (step build s c).1) (lookup_ok h c.key).2

theorem step_outcome {build : Key → Parser} {s : State} (h : CacheOK build s.cache) (c : Call) :
    (step build s c).2 = (build c.key, (run c.args c.prog s.store []).2) :=
  congrArg (·, _) (lookup_ok h c.key).1

end MoSql.Session
