import MoSql.Dml
/-! Python dicts as association lists, and the value `Shape.cell` finds in each shape `to_insert_call` produces. -/
namespace MoSql.Dml

variable {V : Type}

theorem getKey_setKey_same (kvs : List (String × V)) (k : String) (v : V) : getKey (setKey kvs k v) k = some v := by
  fun_induction setKey kvs k v with
  | case1 => exact if_pos (beq_self_eq_true k)
  | case2 k' v' rest hk => rw [getKey, if_pos hk]
  | case3 k' v' rest hk ih => rw [getKey, if_neg hk, ih]

theorem getKey_setKey_other (kvs : List (String × V)) {k k2 : String} (v : V) (h : (k2 == k) = false) :
    getKey (setKey kvs k v) k2 = getKey kvs k2 := by
  have h : ¬ (k == k2) = true := fun e => ne_of_beq_false h (eq_of_beq e).symm
  fun_induction setKey kvs k v with
  | case1 => exact if_neg h
  | case2 k' v' rest hk => rw [getKey, getKey, eq_of_beq hk, if_neg h, if_neg h]
  | case3 k' v' rest hk ih => rw [getKey, getKey, ih]

theorem getKey_delKey_other (kvs : List (String × V)) {k k2 : String} (h : (k2 == k) = false) :
    getKey (delKey kvs k) k2 = getKey kvs k2 := by
  induction kvs with
  | nil => rfl
  | cons kv rest ih =>
    rw [delKey, List.filter_cons]
    split
    next => rw [getKey, getKey, ← ih]; rfl
    next hk =>
      have e : kv.1 = k := by simpa using hk
      rw [getKey, e, show (k == k2) = false by rwa [BEq.comm]]
      exact ih

theorem getKey_foldl_setKey_of_ne {k : String} (pairs d : List (String × V))
    (h : ∀ p ∈ pairs, (k == p.1) = false) :
    getKey (pairs.foldl (fun d kv => setKey d kv.1 kv.2) d) k = getKey d k := by
  induction pairs generalizing d with
  | nil => rfl
  | cons p ps ih =>
    rw [List.foldl_cons, ih _ fun q hq => h q (List.mem_cons_of_mem _ hq),
      getKey_setKey_other _ _ (h p List.mem_cons_self)]

/-- with distinct keys every pair is found: its key is written once and not overwritten later -/
theorem getKey_foldl_setKey_of_mem {k : String} {v : V} (pairs d : List (String × V))
    (hnd : (pairs.map (·.1)).Nodup) (hm : (k, v) ∈ pairs) :
    getKey (pairs.foldl (fun d kv => setKey d kv.1 kv.2) d) k = some v := by
  induction pairs generalizing d with
  | nil => cases hm
  | cons p ps ih =>
    rw [List.map_cons, List.nodup_cons] at hnd
    rw [List.foldl_cons]
    rcases List.mem_cons.mp hm with rfl | hm
    · rw [getKey_foldl_setKey_of_ne ps _ fun q hq => beq_eq_false_iff_ne.mpr fun e =>
        hnd.1 (List.mem_map.mpr ⟨q, hq, e.symm⟩), getKey_setKey_same]
    · exact ih _ hnd.2 hm

theorem rowDict_get (cols : List String) (row : List V) (i : Nat) (hnd : cols.Nodup) (hi : i < cols.length)
    (hl : row.length = cols.length) : getKey (rowDict cols row) (cols[i]'hi) = some (row[i]'(hl ▸ hi)) := by
  refine getKey_foldl_setKey_of_mem _ [] ?_ ?_
  · rwa [List.map_fst_zip (Nat.le_of_eq hl.symm)]
  · exact List.mem_iff_getElem.mpr ⟨i, by rw [List.length_zip, hl, Nat.min_self]; exact hi, List.getElem_zip⟩

/-- `Shape.cell` on the two shapes that keep rows as lists -/
theorem cell_positional (rows : List (List (Cell V))) {j i : Nat} (hj : j < rows.length)
    (hi : i < (rows[j]).length) :
    ((rows.map (·.map Cell.val))[j]?).bind (fun r => r[i]?) = some ((rows[j])[i]).val := by
  rw [List.getElem?_map, List.getElem?_eq_getElem hj, Option.map_some, Option.bind_some, List.getElem?_map,
    List.getElem?_eq_getElem hi]
  rfl

/-- `Shape.cell` on the dict shape -/
theorem cell_byName (cs : List String) (hnd : cs.Nodup) (rows : List (List (Cell V))) {j i : Nat}
    (hj : j < rows.length) (hi : i < cs.length) (hrow : (rows[j]).length = cs.length) :
    ((rows.map fun r => rowDict cs (r.map Cell.val))[j]?).bind (fun r => (cs[i]?).bind fun c => getKey r c)
      = some ((rows[j])[i]'(hrow ▸ hi)).val := by
  rw [List.getElem?_map, List.getElem?_eq_getElem hj, Option.map_some, Option.bind_some,
    List.getElem?_eq_getElem hi, Option.bind_some,
    rowDict_get cs _ i hnd hi (by rw [List.length_map, hrow]), List.getElem_map]

end MoSql.Dml
