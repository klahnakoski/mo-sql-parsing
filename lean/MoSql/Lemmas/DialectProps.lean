import MoSql.Dialect
import MoSql.Gen.Lexemes
import MoSql.Lemmas.LexProps
/-!
`ident_w_dash` is the plain word token while no `-` follows a name character (`matchDashWord_eq`); hence `atomic_ident`
of every dialect is the word token on text that does not open with a quote (`atomicIdent_neutral`).
-/
namespace MoSql.Dialect
open MoSql.Lex

theorem inRanges_of_subset (a b : List (Nat × Nat)) (h : rangesSubset a b = true) (c : Char)
    (hc : inRanges a c = true) : inRanges b c = true := by
  simp only [inRanges, List.any_eq_true, Bool.and_eq_true, decide_eq_true_eq] at hc ⊢
  obtain ⟨r, hr, h1, h2⟩ := hc
  simp only [rangesSubset, List.all_eq_true, List.any_eq_true, Bool.and_eq_true, decide_eq_true_eq] at h
  obtain ⟨q, hq, hq1, hq2⟩ := h r hr
  exact ⟨q, hq, Nat.le_trans hq1 h1, Nat.le_trans h2 hq2⟩

theorem matchWord_congr_first (f1 f2 rest : List (Nat × Nat)) (h : ∀ c, inRanges f1 c = inRanges f2 c) (s : List Char) :
    matchWord f1 rest s = matchWord f2 rest s := by
  cases s with
  | nil => rfl
  | cons c cs => simp [matchWord, h c]

theorem dashLoop_eq (rest : List (Nat × Nat)) (cs : List Char) (prev : Char) (hp : inRanges rest prev = true)
    (hn : noDashAfterName rest (prev :: cs) = true) :
    dashLoop rest prev cs = (cs.takeWhile (inRanges rest), cs.dropWhile (inRanges rest)) := by
  induction cs generalizing prev with
  | nil => rfl
  | cons c cs ih =>
    simp only [noDashAfterName, hp, Bool.true_and, Bool.and_eq_true, Bool.not_eq_true'] at hn
    by_cases hc : inRanges rest c = true
    · simp [dashLoop, hc, ih c hc hn.2, List.takeWhile, List.dropWhile]
    · simp [dashLoop, hc, hn.1, List.takeWhile, List.dropWhile]

theorem matchDashWord_none {first : List (Nat × Nat)} {c : Char} (h : inRanges first c = false)
    (rest : List (Nat × Nat)) (cs : List Char) : matchDashWord first rest (c :: cs) = none := by
  simp [matchDashWord, h]

theorem matchDashWord_eq (first rest : List (Nat × Nat)) (hsub : rangesSubset first rest = true)
    (s : List Char) (hn : noDashAfterName rest s = true) :
    matchDashWord first rest s = matchWord first rest s := by
  cases s with
  | nil => rfl
  | cons c cs =>
    cases hc : inRanges first c
    · rw [matchDashWord_none hc, matchWord_none hc]
    · simp [matchDashWord, matchWord, hc, dashLoop_eq rest cs c (inRanges_of_subset first rest hsub c hc) hn]

theorem firstMatch_nil (s : List Char) : firstMatch [] s = none := rfl

theorem firstMatch_cons (m : List Char → Option (List Char × List Char)) (ms) (s : List Char) :
    firstMatch (m :: ms) s = (m s).or (firstMatch ms s) := by
  rw [firstMatch]
  cases m s <;> rfl

theorem atomicIdent_neutral (t : Tables) (hsub : rangesSubset t.first t.rest = true)
    (hl : ∀ c, inRanges t.localFirst c = inRanges t.first c) (d : D) (c : Char) (cs : List Char)
    (h1 : (c == dq) = false) (h2 : (c == bt) = false) (h3 : (c == '[') = false)
    (hn : noDashAfterName t.rest (c :: cs) = true) :
    atomicIdent t d (c :: cs) = matchWord t.first t.rest (c :: cs) := by
  have hdash := matchDashWord_eq t.first t.rest hsub (c :: cs) hn
  have hloc := matchWord_congr_first t.localFirst t.first t.rest hl (c :: cs)
  cases d <;> simp [atomicIdent, firstMatch_cons, firstMatch_nil, alt, matchQuoted_none h1, matchQuoted_none h2,
    matchQuoted_none h3, hdash, hloc]

/-- the table obligation of C18 on the generated character tables, as the facts the rule theorems use -/
theorem charTables_gen :
    rangesSubset Gen.firstIdentRanges Gen.identRanges = true ∧ inRanges Gen.firstIdentRanges '"' = false
      ∧ inRanges Gen.firstIdentRanges '`' = false ∧ inRanges Gen.firstIdentRanges '[' = false := by
  decide +kernel

end MoSql.Dialect
