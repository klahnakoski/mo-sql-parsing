import MoSql.Lemmas.PegGap
/-!
A concrete instance of the gap hypotheses (`GapHyp`), to show they can be met by a non-trivial grammar and text:
`select a<gap>, b` with the gap filled by a blank or by a block comment and a line break.
-/
namespace MoSql.Peg.Example
open MoSql.Peg

def tSel : Term := .kw "select".toList true
def tId : Term := .word [('a', 'z')] [('a', 'z')]
def tComma : Term := .lit [','] false

/-- `SELECT name (, name)*` with the comment-aware engine everywhere -/
def g : G := .seq 2 [.term tSel, .term tId, .many 2 (.seq 2 [.term tComma, .term tId]) 0 1000]

def E : Env := { skip := fun ws x => if ws = 2 then Skip.skip x else x, rule := fun _ => .empty }
def P (t : Term) : Bool := decide (t = tSel ∨ t = tId ∨ t = tComma)
def Q (ws : Nat) : Bool := ws == 2

def pre : Str := "select a".toList
def f : Str := " ".toList
def f' : Str := "/*c*/\n".toList
def post : Str := ", b".toList

def goodC (u : Str) : Prop := u = pre ∨ u = "a".toList
def goodE (u : Str) : Prop := u = pre ∨ u = " a".toList ∨ u = "a".toList ∨ u = []

theorem hyp : GapHyp E f f' post goodC goodE P Q where
  f_ne := by decide +kernel
  f'_ne := by decide +kernel
  c_e _ := Or.imp_right fun h => Or.inr (Or.inl h)
  skip_le := by
    intro ws _ x
    simp only [E]
    split
    · exact Skip.skip_le x
    · exact Nat.le_refl _
  skip_gap := by
    intro ws hws u hu
    obtain rfl : ws = 2 := by simpa [Q] using hws
    -- from `pre` and "a" the engine stays, from " a" it skips the blank, from the end of `pre` either filler
    rcases hu with rfl | rfl | rfl | rfl
    · exact Or.inl ⟨pre, Or.inl rfl, by decide, by decide⟩
    · exact Or.inl ⟨"a".toList, Or.inr rfl, by decide, by decide⟩
    · exact Or.inl ⟨"a".toList, Or.inr rfl, by decide, by decide⟩
    · exact Or.inr ⟨by decide, by decide⟩
  term_gap := by
    intro t ht u hu
    have ht := of_decide_eq_true ht
    -- `pre` as a list of characters, once: `String.toList` evaluated anew in every case is what costs
    rcases hu with rfl | rfl <;> dsimp only [pre, String.reduceToList]
    · -- from `pre`, `select` and a name both read "select" and a comma fails, whatever follows
      rcases ht with rfl | rfl | rfl
      · exact .gap_of_some (s := "select".toList) (r := " a".toList) (fun _ => rfl) (Or.inr (Or.inl rfl))
      · exact .gap_of_some (s := "select".toList) (r := " a".toList) (fun _ => rfl) (Or.inr (Or.inl rfl))
      · exact .gap_of_none fun _ => rfl
    · -- from "a" only a name matches; it is the one terminal that looks at the filler, to see that the name ends there
      rcases ht with rfl | rfl | rfl
      · exact .gap_of_none fun _ => rfl
      · show TermRel _ (some ("a".toList, [] ++ (f ++ post))) (some ("a".toList, [] ++ (f' ++ post)))
        exact ⟨rfl, Or.inl ⟨[], Or.inr (Or.inr (Or.inr rfl)), rfl, rfl⟩⟩
      · exact .gap_of_none fun _ => rfl

end MoSql.Peg.Example
