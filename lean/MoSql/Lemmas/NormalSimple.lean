import MoSql.Lemmas.ScrubBasic
/-
`calls=normal_op` versus the default `simple_op`: the two outputs differ in notation only.
`Conv n s` is that notation change, written as rules: a normal node {"op": name, "args": […], "kwargs": {…}}
corresponds to the simple node {name: args-unwrapped, **kwargs}; everything else corresponds
component-wise.
-/
namespace MoSql.Scrub

/-- how `simple_op` stores the argument list `xs` that `normal_op` keeps as a list -/
inductive ConvArgs : List J → J → Prop where
  | none : ConvArgs [] (.obj [])
  | one (x : J) : ConvArgs [x] x
  | many (xs : List J) : 2 ≤ xs.length → ConvArgs xs (.arr xs)

mutual
inductive Conv : J → J → Prop where
  | null : Conv .null .null
  | bool (b : Bool) : Conv (.bool b) (.bool b)
  | int (i : Int) : Conv (.int i) (.int i)
  | flt (s : String) : Conv (.flt s) (.flt s)
  | str (s : String) : Conv (.str s) (.str s)
  | opq (s : String) : Conv (.opaque s) (.opaque s)
  | marker (b : Bool) : Conv (.marker b) (.marker b)
  | arr {xs ys : List J} : ConvList xs ys → Conv (.arr xs) (.arr ys)
  | dict {kvs kvs' : List (String × J)} : ConvKvs kvs kvs' → Conv (.obj kvs) (.obj kvs')
  /-- a normal node: operands converted first, then stored the `simple_op` way -/
  | node {name : String} {args args' : List J} {kw kw' : List (String × J)} {v : J} :
      ConvList args args' → ConvArgs args' v → ConvKvs kw kw' →
      Conv (.obj ([("op", .str name)] ++ (if args.isEmpty then [] else [("args", .arr args)])
                    ++ (if kw.isEmpty then [] else [("kwargs", .obj kw)])))
           (.obj (setKeySlot kw' name v))
inductive ConvList : List J → List J → Prop where
  | nil : ConvList [] []
  | cons {x y : J} {xs ys : List J} : Conv x y → ConvList xs ys → ConvList (x :: xs) (y :: ys)
inductive ConvKvs : List (String × J) → List (String × J) → Prop where
  | nil : ConvKvs [] []
  | cons {k : String} {x y : J} {xs ys : List (String × J)} : Conv x y → ConvKvs xs ys → ConvKvs ((k, x) :: xs) ((k, y) :: ys)
end

/- no call whose whole argument list is the bare NULL placeholder (`f(null)`: known finding for `normal_op`) -/
mutual
def noSoleNull (c : Cfg) : Raw → Bool
  | .call _ args kw => !(scrub c args).isMarker && noSoleNull c args && noSoleNullKw c kw
  | .list xs => noSoleNullList c xs
  | .grp r => noSoleNull c r
  | .dict kvs => noSoleNullKw c kvs
  | _ => true
def noSoleNullList (c : Cfg) : List Raw → Bool
  | [] => true
  | r :: rs => noSoleNull c r && noSoleNullList c rs
def noSoleNullKw (c : Cfg) : List (String × Raw) → Bool
  | [] => true
  | (_, r) :: rest => noSoleNull c r && noSoleNullKw c rest
end

theorem conv_isNull {a b : J} (h : Conv a b) : a.isNull = b.isNull := by
  cases h <;> rfl

theorem conv_isMarker {a b : J} (h : Conv a b) : a.isMarker = b.isMarker := by
  cases h <;> rfl

theorem conv_mark {a b : J} (h : Conv a b) : Conv (mark a) (mark b) := by
  have h' := h
  cases h with
  | marker => exact .marker true
  | _ => exact h'

theorem convList_filter {xs ys : List J} (h : ConvList xs ys) :
    ConvList (xs.filter (fun j => !j.isNull)) (ys.filter (fun j => !j.isNull)) := by
  induction xs generalizing ys with
  | nil => cases h; exact .nil
  | cons x xs ih =>
    cases h with
    | cons hx ht =>
      simp only [List.filter, ← conv_isNull hx]
      cases x.isNull
      · exact .cons hx (ih ht)
      · exact ih ht

theorem convList_map_mark {xs ys : List J} (h : ConvList xs ys) : ConvList (xs.map mark) (ys.map mark) := by
  induction xs generalizing ys with
  | nil => cases h; exact .nil
  | cons x xs ih => cases h with | cons hx ht => exact .cons (conv_mark hx) (ih ht)

theorem conv_pack {xs ys : List J} (h : ConvList xs ys) : Conv (pack xs) (pack ys) := by
  cases h with
  | nil => exact .null
  | cons hx ht =>
    cases ht with
    | nil => exact hx
    | cons hy ht => exact .arr (convList_map_mark (.cons hx (.cons hy ht)))

theorem conv_collapse {xs ys : List J} (h : ConvList xs ys) : Conv (collapse xs) (collapse ys) :=
  conv_pack (convList_filter h)

/-- top-level shape invariant: a list that `scrub` returns has at least two elements (shorter ones are unwrapped) -/
def arr2 : J → Bool
  | .arr xs => decide (2 ≤ xs.length)
  | _ => true

theorem arr2_pack : ∀ ys : List J, (∀ x ∈ ys, arr2 x = true) → arr2 (pack ys) = true
  | [], _ => rfl
  | [x], h => h x List.mem_cons_self
  | _ :: _ :: _, _ => rfl

theorem arr2_collapse (xs : List J) (h : ∀ x ∈ xs, arr2 x = true) : arr2 (collapse xs) = true :=
  arr2_pack _ fun x hx => h x (List.mem_filter.mp hx).1

theorem arr2_applyOp (c : Cfg) (op : String) (a : J) (kw : List (String × J)) : arr2 (applyOp c op a kw) = true := by
  cases hm : c.mode
  · rw [applyOp_simple hm]; rfl
  · rw [applyOp_normal hm]; rfl

mutual
theorem arr2_scrub (c : Cfg) : ∀ r : Raw, arr2 (scrub c r) = true := by
  intro r
  cases r with
  | call op => exact arr2_applyOp c op _ _
  | list xs => exact arr2_collapse _ (arr2_scrubList c xs)
  | grp r => exact scrub_grp c r ▸ arr2_scrub c r
  | _ => rfl
theorem arr2_scrubList (c : Cfg) : ∀ rs : List Raw, ∀ x ∈ scrubList c rs, arr2 x = true
  | [] => nofun
  | r :: rs => List.forall_mem_cons.mpr ⟨arr2_scrub c r, arr2_scrubList c rs⟩
end

theorem convList_listwrap {a b : J} (h : Conv a b) : ConvList (listwrap a) (listwrap b) := by
  have h' := h
  cases h with
  | null => exact .nil
  | arr hl => exact hl
  | _ => exact .cons h' .nil

theorem convArgs_listwrap {a : J} (hm : a.isMarker = false) (h2 : arr2 a = true) :
    ConvArgs (listwrap a) (simpleArg a) := by
  cases a with
  | null => exact .none
  | arr xs => exact .many xs (of_decide_eq_true h2)
  | marker => cases hm
  | _ => exact .one _

theorem conv_applyOp (fm : List (String × String)) (op : String) {A A' : J} {K K' : List (String × J)}
    (hA : Conv A A') (hK : ConvKvs K K') (hm : A.isMarker = false) (h2 : arr2 A' = true) :
    Conv (applyOp { mode := .normal, fmap := fm } op A K) (applyOp { mode := .simple, fmap := fm } op A' K') := by
  have hm' : A'.isMarker = false := conv_isMarker hA ▸ hm
  rw [applyOp_normal rfl, applyOp_simple rfl]
  simp only [hm, hm', Bool.false_and, Bool.false_eq_true, if_false]
  exact .node (convList_listwrap hA) (convArgs_listwrap hm' h2) hK

mutual
theorem conv_scrub (fm : List (String × String)) : ∀ r : Raw, noSoleNull { mode := .normal, fmap := fm } r = true →
    Conv (scrub { mode := .normal, fmap := fm } r) (scrub { mode := .simple, fmap := fm } r) := by
  intro r h
  cases r with
  | call op args kw =>
    simp only [noSoleNull, Bool.and_eq_true, Bool.not_eq_true'] at h
    exact conv_applyOp fm op (conv_scrub fm args h.1.2) (conv_scrubKw fm kw h.2) h.1.1 (arr2_scrub _ args)
  | list xs => exact conv_collapse (conv_scrubList fm xs h)
  | grp r =>
    rw [scrub_grp, scrub_grp]
    exact conv_scrub fm r h
  | dict kvs => exact .dict (conv_scrubKw fm kvs h)
  | _ => constructor
theorem conv_scrubList (fm : List (String × String)) : ∀ rs : List Raw, noSoleNullList { mode := .normal, fmap := fm } rs = true →
    ConvList (scrubList { mode := .normal, fmap := fm } rs) (scrubList { mode := .simple, fmap := fm } rs)
  | [], _ => .nil
  | r :: rs, h =>
    have h := Bool.and_eq_true_iff.mp h
    .cons (conv_scrub fm r h.1) (conv_scrubList fm rs h.2)
theorem conv_scrubKw (fm : List (String × String)) : ∀ kvs : List (String × Raw), noSoleNullKw { mode := .normal, fmap := fm } kvs = true →
    ConvKvs (scrubKw { mode := .normal, fmap := fm } kvs) (scrubKw { mode := .simple, fmap := fm } kvs)
  | [], _ => .nil
  | (k, r) :: rest, h => by
    have h := Bool.and_eq_true_iff.mp h
    have hr := conv_scrub fm r h.1
    have ih := conv_scrubKw fm rest h.2
    cases hn : (scrub { mode := .normal, fmap := fm } r).isNull
    · rw [scrubKw_cons hn, scrubKw_cons (conv_isNull hr ▸ hn)]
      exact .cons (conv_mark hr) ih
    · rwa [scrubKw_cons_null hn, scrubKw_cons_null (conv_isNull hr ▸ hn)]
end

end MoSql.Scrub
