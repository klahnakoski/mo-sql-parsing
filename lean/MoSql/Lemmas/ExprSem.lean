import MoSql.Lemmas.InfixCorrect
import MoSql.Expr
/-! `evalE = sem`, and nothing is dropped, on every expression all of whose `make_tree` activations are compatible. -/
namespace MoSql.E
open MoSql MoSql.Infix

theorem evalE_paren (cx : Ctx) (e : E) : evalE cx (.paren e) = .grp (evalE cx e) := by
  simp [evalE, toW, evalW, W.flat, makeTree_single, resultVal, Item.asVal]

variable (cx : Ctx) (hOK : LevelsOK cx.levels)
include hOK

theorem evalW_eq (w : W Raw) (hwf : w.wfB cx.levels = true) (hc : w.compatB = true) :
    evalW cx w = ⟨some (w.val (OpJson.builders cx.assoc) cx.levels), []⟩ :=
  makeTree_flat _ _ hOK w (W.wfB_iff.1 hwf) (W.compatB_iff.1 hc)

mutual
theorem toW_val : ∀ e : E, okSub cx e = true →
    (toW cx e).val (OpJson.builders cx.assoc) cx.levels = sem cx e
  | .atom _ _, _ => rfl
  | .paren e, h => by
    simp only [okSub, okTop, Bool.and_eq_true] at h
    simp only [toW, W.val, sem, evalW_eq cx hOK _ h.1.1 h.1.2, resultVal, toW_val e h.2]
  | .call f args, h => by
    simp only [okSub] at h
    simp only [toW, W.val, sem, argsRaw_sem args h]
  | .pre o e, h => by
    simp only [okSub] at h
    simp only [toW, W.val, sem, lvl, toW_val e h]
  | .cast o e ty, h => by
    simp only [okSub] at h
    simp only [toW, W.val, sem, lvl, toW_val e h]
  | .bin o l r, h => by
    simp only [okSub, Bool.and_eq_true] at h
    simp only [toW, W.val, sem, lvl, toW_val l h.1, toW_val r h.2]
  | .tern o a b c, h => by
    simp only [okSub, Bool.and_eq_true] at h
    simp only [toW, W.val, sem, lvl, toW_val a h.1.1, toW_val b h.1.2, toW_val c h.2]
theorem argsRaw_sem : ∀ es : List E, okList cx es = true → argsRaw cx es = semArgs cx es
  | [], _ => rfl
  | e :: es, h => by
    simp only [okList, okTop, Bool.and_eq_true] at h
    simp only [argsRaw, semArgs, evalW_eq cx hOK _ h.1.1.1 h.1.1.2, resultVal, toW_val e h.1.2,
      argsRaw_sem es h.2]
end

/-- **C01, model level.** -/
theorem evalE_eq_sem (e : E) (h : okTop cx e = true) : evalE cx e = sem cx e := by
  simp only [okTop, Bool.and_eq_true] at h
  simp only [evalE, evalW_eq cx hOK _ h.1.1 h.1.2, resultVal, toW_val cx hOK e h.2]

mutual
theorem drops_of_okSub : ∀ e : E, okSub cx e = true → drops cx e = false
  | .atom _ _, _ => by simp only [drops]
  | .paren e, h => by
    simp only [okSub, okTop, Bool.and_eq_true] at h
    simp [drops, dropsTop, evalW_eq cx hOK _ h.1.1 h.1.2, drops_of_okSub e h.2]
  | .call f args, h => by
    simp only [okSub] at h
    simp only [drops, dropsList_of_okList args h]
  | .pre o e, h => by simp only [okSub] at h; simp only [drops, drops_of_okSub e h]
  | .cast o e ty, h => by simp only [okSub] at h; simp only [drops, drops_of_okSub e h]
  | .bin o l r, h => by
    simp only [okSub, Bool.and_eq_true] at h
    simp [drops, drops_of_okSub l h.1, drops_of_okSub r h.2]
  | .tern o a b c, h => by
    simp only [okSub, Bool.and_eq_true] at h
    simp [drops, drops_of_okSub a h.1.1, drops_of_okSub b h.1.2, drops_of_okSub c h.2]
theorem dropsList_of_okList : ∀ es : List E, okList cx es = true → dropsList cx es = false
  | [], _ => by simp only [dropsList]
  | e :: es, h => by
    simp only [okList, okTop, Bool.and_eq_true] at h
    simp [dropsList, dropsTop, evalW_eq cx hOK _ h.1.1.1 h.1.1.2, drops_of_okSub e h.1.2,
      dropsList_of_okList es h.2]
end

theorem dropsTop_of_okTop (e : E) (h : okTop cx e = true) : dropsTop cx e = false := by
  simpa only [drops] using drops_of_okSub cx hOK (.paren e) (by simpa only [okSub] using h)

end MoSql.E
