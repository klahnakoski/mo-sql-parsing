import MoSql.Lemmas.ScrubBasic
/-!
`scrub` loses no content: every string, number and boolean leaf of the raw tree the parse actions built is a leaf
of the simplified tree — in both `calls=` modes and under every `fmap`.  What `scrub` removes is `None`, empty lists
and the list / Group wrappers.  The one way content can get lost is a keyword argument of a call that has the same
name as the call itself (`kwargs[op] = args` overwrites it): excluded by `noClash`.
-/
namespace MoSql.Scrub
open MoSql

inductive Atom where
  | s (x : String)
  | i (x : Int)
  | f (x : String)
  | b (x : Bool)
  deriving DecidableEq, Repr

mutual
/-- the content leaves of a result -/
def jAtoms : J → List Atom
  | .str x => [.s x]
  | .int x => [.i x]
  | .flt x => [.f x]
  | .bool x => [.b x]
  | .arr xs => jAtomsL xs
  | .obj kvs => jAtomsK kvs
  | _ => []
def jAtomsL : List J → List Atom
  | [] => []
  | x :: xs => jAtoms x ++ jAtomsL xs
def jAtomsK : List (String × J) → List Atom
  | [] => []
  | (_, v) :: rest => jAtoms v ++ jAtomsK rest
end

mutual
/-- the content leaves of a raw tree -/
def rAtoms : Raw → List Atom
  | .str x => [.s x]
  | .int x => [.i x]
  | .flt x => [.f x]
  | .bool x => [.b x]
  | .call _ args kw => rAtoms args ++ rAtomsK kw
  | .list xs => rAtomsL xs
  | .grp r => rAtoms r
  | .dict kvs => rAtomsK kvs
  | _ => []
def rAtomsL : List Raw → List Atom
  | [] => []
  | x :: xs => rAtoms x ++ rAtomsL xs
def rAtomsK : List (String × Raw) → List Atom
  | [] => []
  | (_, v) :: rest => rAtoms v ++ rAtomsK rest
end

mutual
/-- no call has a keyword argument named like the (renamed) call itself -/
def noClash (c : Cfg) : Raw → Bool
  | .call op args kw => !((kw.map (·.1)).contains (c.rename op)) && noClash c args && noClashK c kw
  | .list xs => noClashL c xs
  | .grp r => noClash c r
  | .dict kvs => noClashK c kvs
  | _ => true
def noClashL (c : Cfg) : List Raw → Bool
  | [] => true
  | x :: xs => noClash c x && noClashL c xs
def noClashK (c : Cfg) : List (String × Raw) → Bool
  | [] => true
  | (_, v) :: rest => noClash c v && noClashK c rest
end

theorem jAtoms_mark (j : J) : jAtoms (mark j) = jAtoms j := by
  cases j <;> rfl

theorem jAtoms_of_isNull {j : J} (h : j.isNull = true) : jAtoms j = [] := by
  cases j with
  | null => rfl
  | _ => cases h

theorem jAtoms_of_isMarker {j : J} (h : j.isMarker = true) : jAtoms j = [] := by
  cases j with
  | marker => rfl
  | _ => cases h

theorem jAtomsL_map_mark (ys : List J) : jAtomsL (ys.map mark) = jAtomsL ys := by
  induction ys with
  | nil => rfl
  | cons _ _ ih => simp only [List.map, jAtomsL, jAtoms_mark, ih]

theorem jAtomsL_filter (xs : List J) : jAtomsL (xs.filter (fun j => !j.isNull)) = jAtomsL xs := by
  induction xs with
  | nil => rfl
  | cons x _ ih =>
    cases hx : x.isNull
    · simp only [List.filter, hx, Bool.not_false, jAtomsL, ih]
    · simp only [List.filter, hx, Bool.not_true, jAtomsL, ih, jAtoms_of_isNull hx, List.nil_append]

theorem jAtoms_pack : ∀ ys : List J, jAtoms (pack ys) = jAtomsL ys
  | [] => rfl
  | [_] => (List.append_nil _).symm
  | _ :: _ :: _ => jAtomsL_map_mark _

theorem jAtoms_collapse (xs : List J) : jAtoms (collapse xs) = jAtomsL xs := by
  rw [collapse_eq, jAtoms_pack, jAtomsL_filter]

theorem jAtomsK_append (xs ys : List (String × J)) : jAtomsK (xs ++ ys) = jAtomsK xs ++ jAtomsK ys := by
  induction xs with
  | nil => rfl
  | cons _ _ ih => simp only [List.cons_append, jAtomsK, ih, List.append_assoc]

theorem jAtomsL_listwrap (j : J) : jAtomsL (listwrap j) = jAtoms j := by
  cases j with
  | null | arr => rfl
  | _ => exact List.append_nil _

theorem jAtoms_simpleArg (a : J) : jAtoms (simpleArg a) = jAtoms a := by
  unfold simpleArg
  cases hn : a.isNull
  · exact jAtoms_mark a
  · exact (jAtoms_of_isNull hn).symm

theorem jAtoms_normalNode (name : String) (args : List J) (kw : List (String × J)) :
    jAtoms (normalNode name args kw) = .s name :: (jAtomsL args ++ jAtomsK kw) := by
  have hA : jAtomsK (if args.isEmpty then [] else [("args", .arr args)]) = jAtomsL args := by
    cases args
    · rfl
    · exact List.append_nil _
  have hK : jAtomsK (if kw.isEmpty then [] else [("kwargs", .obj kw)]) = jAtomsK kw := by
    cases kw
    · rfl
    · exact List.append_nil _
  rw [normalNode, jAtoms, jAtomsK_append, jAtomsK_append, hA, hK]
  rfl

/-- the call node keeps the content of its arguments and of its keyword arguments -/
theorem mem_applyOp (c : Cfg) (op : String) (aj : J) (kw : List (String × J)) (a : Atom)
    (hk : (kw.map (·.1)).contains (c.rename op) = false) (h : a ∈ jAtoms aj ∨ a ∈ jAtomsK kw) :
    a ∈ jAtoms (applyOp c op aj kw) := by
  cases hm : c.mode
  · rw [applyOp_simple_fresh hm hk]
    simpa [jAtoms, jAtomsK_append, jAtomsK, jAtoms_simpleArg] using h.symm
  · rw [applyOp_normal hm, jAtoms_normalNode]
    refine List.mem_cons_of_mem _ (List.mem_append.mpr (h.imp (fun h => ?_) (fun h => ?_)))
    · cases hmk : aj.isMarker
      · exact jAtomsL_listwrap aj ▸ h
      · exact nomatch jAtoms_of_isMarker hmk ▸ h
    · split
      · rw [setKey_fresh kw _ hk, jAtomsK_append]
        exact List.mem_append_left _ h
      · exact h

theorem keys_scrubKw (c : Cfg) (kvs : List (String × Raw)) (k : String)
    (h : (kvs.map (·.1)).contains k = false) : ((scrubKw c kvs).map (·.1)).contains k = false := by
  rw [scrubKw_keys]
  exact Bool.eq_false_iff.mpr fun hk => Bool.eq_false_iff.mp h <|
    List.contains_iff_mem.mpr ((List.filter_sublist.map _).subset (List.contains_iff_mem.mp hk))

mutual
theorem scrub_keeps_atoms (c : Cfg) : ∀ (r : Raw), noClash c r = true → ∀ a ∈ rAtoms r, a ∈ jAtoms (scrub c r) := by
  intro r hc a h
  cases r with
  | call op args kw =>
    simp only [noClash, Bool.and_eq_true, Bool.not_eq_true'] at hc
    exact mem_applyOp c op _ _ a (keys_scrubKw c kw _ hc.1.1) <|
      (List.mem_append.mp h).imp (scrub_keeps_atoms c args hc.1.2 a) (scrubKw_keeps_atoms c kw hc.2 a)
  | list xs => exact jAtoms_collapse _ ▸ scrubList_keeps_atoms c xs hc a h
  | grp r => exact scrub_grp c r ▸ scrub_keeps_atoms c r hc a h
  | dict kvs => exact scrubKw_keeps_atoms c kvs hc a h
  | _ => exact h
theorem scrubList_keeps_atoms (c : Cfg) : ∀ (rs : List Raw), noClashL c rs = true → ∀ a ∈ rAtomsL rs, a ∈ jAtomsL (scrubList c rs)
  | [], _, _, h => h
  | r :: rs, hc, a, h =>
    have hc := Bool.and_eq_true_iff.mp hc
    List.mem_append.mpr <| (List.mem_append.mp h).imp
      (scrub_keeps_atoms c r hc.1 a) (scrubList_keeps_atoms c rs hc.2 a)
theorem scrubKw_keeps_atoms (c : Cfg) : ∀ (kvs : List (String × Raw)), noClashK c kvs = true → ∀ a ∈ rAtomsK kvs, a ∈ jAtomsK (scrubKw c kvs)
  | [], _, _, h => h
  | (k, r) :: rest, hc, a, h => by
    have hc := Bool.and_eq_true_iff.mp hc
    have h := (List.mem_append.mp h).imp (scrub_keeps_atoms c r hc.1 a) (scrubKw_keeps_atoms c rest hc.2 a)
    cases hn : (scrub c r).isNull
    · rw [scrubKw_cons hn]
      exact List.mem_append.mpr (h.imp_left fun h => (jAtoms_mark (scrub c r)).symm ▸ h)
    · rw [scrubKw_cons_null hn]
      exact h.resolve_left (jAtoms_of_isNull hn ▸ List.not_mem_nil)
end

end MoSql.Scrub
