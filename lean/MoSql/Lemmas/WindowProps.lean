import MoSql.Window
/-! How a frame is recorded (`_to_bound_call`, `_to_between_call`), and that what the formatter writes for a recorded
dict is recorded as that dict again. -/
namespace MoSql.Window

/-- `_to_bound_call` records a bound at or before the current row in `min`, one after it in `max`,
and 0 on the other side (CURRENT ROW and zero offsets are of the first kind) -/
theorem toBound_cases (b : Bound) :
    (toBound b = ⟨value b, some 0⟩ ∧ (b = .unboundedPreceding ∨ ∃ v, v ≤ 0 ∧ value b = some v)) ∨
    (toBound b = ⟨some 0, value b⟩ ∧ value b ≠ some 0 ∧
      (b = .unboundedFollowing ∨ ∃ v, 0 < v ∧ value b = some v)) := by
  cases b with
  | current => exact .inl ⟨rfl, .inr ⟨0, Int.le_refl 0, rfl⟩⟩
  | unboundedPreceding => exact .inl ⟨rfl, .inl rfl⟩
  | unboundedFollowing => exact .inr ⟨rfl, nofun, .inl rfl⟩
  | preceding n => exact .inl ⟨rfl, .inr ⟨_, Int.neg_nonpos_of_nonneg (Int.natCast_nonneg n), rfl⟩⟩
  | following n =>
    cases n with
    | zero => exact .inl ⟨rfl, .inr ⟨0, Int.le_refl 0, rfl⟩⟩
    | succ n =>
      have hn := Int.ofNat_succ_pos n
      exact .inr ⟨rfl, fun e => Int.ne_of_gt hn (Option.some.inj e), .inr ⟨_, hn, rfl⟩⟩

/-- **the three-way test of `_to_between_call` picks the right side of each dict** whenever lower ≤ upper:
a zero `max` of the upper dict means the upper bound, hence also the lower one, is not after the current
row, and both are read from `min`; otherwise the upper bound is read from `max`, and the lower one from
`max` or `min` according to whether its `min` is zero. -/
theorem toBetween_toBound {lo hi : Bound} (hlo : lo ≠ .unboundedFollowing) (hhi : hi ≠ .unboundedPreceding)
    (hle : ∀ x y, value lo = some x → value hi = some y → x ≤ y) :
    toBetween (toBound lo) (toBound hi) = ⟨value lo, value hi⟩ := by
  rcases toBound_cases hi with ⟨eh, hh⟩ | ⟨eh, hne, _⟩
  · rcases toBound_cases lo with ⟨el, _⟩ | ⟨_, _, hl⟩
    · simp [toBetween, el, eh]
    · obtain ⟨y, hy, hvy⟩ := hh.resolve_left hhi
      obtain ⟨x, hx, hvx⟩ := hl.resolve_left hlo
      -- the case the order excludes: 0 < x ≤ y ≤ 0
      exact absurd (Int.lt_of_lt_of_le hx (Int.le_trans (hle x y hvx hvy) hy)) (Int.lt_irrefl 0)
  · rcases toBound_cases lo with ⟨el, _⟩ | ⟨el, _, _⟩
    · by_cases h0 : value lo = some 0 <;> simp [toBetween, el, eh, hne, h0]
    · simp [toBetween, el, eh, hne]

theorem rank_of_value {b : Bound} {v : Int} (h : value b = some v) : rank b = (1, v) := by
  cases b <;> simp_all [value, rank]

theorem valid_between {lo hi : Bound} (h : valid (.between lo hi) = true) :
    lo ≠ .unboundedFollowing ∧ hi ≠ .unboundedPreceding ∧
      ∀ a b, value lo = some a → value hi = some b → a ≤ b := by
  simp only [valid, Bool.and_eq_true, bne_iff_ne, ne_eq] at h
  refine ⟨h.1.1, h.1.2, fun a b ha hb => ?_⟩
  simpa [rank_of_value ha, rank_of_value hb] using h.2

theorem wordy_spec {v : Int} (h : v ≠ 0) : ∃ x, wordy v = some x ∧ value x = some v ∧
    toBound x = if v < 0 then ⟨some v, some 0⟩ else ⟨some 0, some v⟩ := by
  unfold wordy
  by_cases hv : v < 0
  · have e : -(v.natAbs : Int) = v := by rw [Int.ofNat_natAbs_of_nonpos (Int.le_of_lt hv), Int.neg_neg]
    exact ⟨.preceding v.natAbs, if_pos hv, congrArg some e, by rw [if_pos hv, toBound, e]⟩
  · have hv' : 0 ≤ v := Int.not_lt.mp hv
    have e : (v.natAbs : Int) = v := Int.natAbs_of_nonneg hv'
    exact ⟨.following v.natAbs, by rw [if_neg hv, if_pos (Int.lt_iff_le_and_ne.mpr ⟨hv', h.symm⟩)], congrArg some e,
      by rw [if_neg hv, toBound, e]⟩

theorem ne_of_value {b c : Bound} {v : Int} (h : value b = some v) (hc : value c = none) : b ≠ c :=
  fun e => by rw [e, hc] at h; cases h

theorem fmtFrame_max (b : Int) :
    ∃ g, fmtFrame ⟨none, some b⟩ = some (some g) ∧ parseFrame g = ⟨none, some b⟩ := by
  by_cases hb : b = 0
  · subst hb
    exact ⟨.single .unboundedPreceding, rfl, rfl⟩
  · obtain ⟨x, hx, hv, _⟩ := wordy_spec hb
    refine ⟨.between .unboundedPreceding x,
      by simp only [fmtFrame, beq_iff_eq, hb, hx, ↓reduceIte, Option.map_some], ?_⟩
    rw [← hv]
    exact toBetween_toBound (by decide) (ne_of_value hv rfl) fun _ _ h => nomatch h

theorem fmtFrame_min (a : Int) :
    ∃ g, fmtFrame ⟨some a, none⟩ = some (some g) ∧ parseFrame g = ⟨some a, none⟩ := by
  by_cases ha : a = 0
  · subst ha
    exact ⟨.single .unboundedFollowing, rfl, rfl⟩
  · obtain ⟨x, hx, hv, _⟩ := wordy_spec ha
    refine ⟨.between x .unboundedFollowing,
      by simp only [fmtFrame, beq_iff_eq, ha, hx, ↓reduceIte, Option.map_some], ?_⟩
    rw [← hv]
    exact toBetween_toBound (ne_of_value hv rfl) (by decide) fun _ _ _ h => nomatch h

theorem fmtFrame_min_max {a b : Int} (h : a ≤ b) :
    ∃ g, fmtFrame ⟨some a, some b⟩ = some (some g) ∧ parseFrame g = ⟨some a, some b⟩ := by
  by_cases ha : a = 0
  · subst ha
    by_cases hb : b = 0
    · subst hb
      exact ⟨.single .current, rfl, rfl⟩
    · obtain ⟨y, hy, _, hty⟩ := wordy_spec hb
      refine ⟨.single y, by simp only [fmtFrame, beq_iff_eq, hb, hy, ↓reduceIte, Option.map_some], ?_⟩
      rw [parseFrame, hty, if_neg (Int.not_lt.mpr h)]
  · obtain ⟨x, hx, hvx, htx⟩ := wordy_spec ha
    by_cases hb : b = 0
    · subst hb
      refine ⟨.single x, by simp only [fmtFrame, beq_iff_eq, ha, hx, ↓reduceIte, Option.map_some], ?_⟩
      rw [parseFrame, htx, if_pos (Int.lt_iff_le_and_ne.mpr ⟨h, ha⟩)]
    · obtain ⟨y, hy, hvy, _⟩ := wordy_spec hb
      refine ⟨.between x y, by simp only [fmtFrame, beq_iff_eq, ha, hb, hx, hy, ↓reduceIte], ?_⟩
      rw [← hvx, ← hvy]
      exact toBetween_toBound (ne_of_value hvx rfl) (ne_of_value hvy rfl) fun _ _ hx' hy' => by
        cases hvx.symm.trans hx'; cases hvy.symm.trans hy'; exact h

end MoSql.Window
