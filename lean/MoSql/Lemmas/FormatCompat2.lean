import MoSql.Format2
import MoSql.Lemmas.OkTop
/-!
The parentheses of the whole formatter vocabulary suffice: the output is precedence-compatible at every level.

An operand is written either as something without an operator outside parentheses (an atom, or a tree the renderer
put in parentheses), or bare, and then it starts with its own root operator (`top_fmt`).  In the second case the
table obligation `soundTable` says that the parser keeps it in its slot (`slot_level`).
-/
namespace MoSql.Fmt2
open MoSql MoSql.Infix MoSql.E

variable (cx : Ctx) (known : List (String × Nat × String)) (ops : List HOp)

/-- the written form of a tree starts (outside parentheses) with its own root operator, or is atomic -/
theorem top_fmt (t : T2) (p : Int) :
    (toW cx (fmt ops t p)).top =
      (root ops t).bind fun c => if bare p c = true then some c.info.level else none := by
  cases t with
  | leaf s r => rfl
  | un k x => simp only [fmt]; split <;> exact top_ite_paren cx _ _
  | bin k l r => exact top_ite_paren cx _ _
  | tern k a b c => exact top_ite_paren cx _ _

variable {cx known ops}

theorem root_mem {t : T2} {c : HOp} (ha : admissible known ops t = true) (h : root ops t = some c) :
    c ∈ ops := by
  cases t with
  | leaf s r => cases h
  | _ =>
    simp only [admissible, Bool.and_eq_true, decide_eq_true_eq, and_assoc] at ha
    exact Option.some.inj h ▸ getD_mem default ha.1

variable (hs : soundTable known ops = true)
include hs

theorem tripleOK_of_sound {o c : HOp} (ho : o ∈ ops) (hc : c ∈ ops) {slot : Nat} (hsl : slot < arity o) :
    tripleOK known o c slot = true := by
  have h := List.all_eq_true.mp (List.all_eq_true.mp hs o ho) c hc
  simp only [Bool.and_eq_true, Bool.or_eq_true, decide_eq_true_eq] at h
  match slot with
  | 0 => exact h.1.1
  | 1 => exact h.1.2.resolve_left (Nat.not_lt.mpr hsl)
  | 2 => exact h.2.resolve_left (Nat.not_lt.mpr hsl)
  | n + 3 => unfold arity at hsl; split at hsl <;> omega

/-- an operand that the renderer of `o` leaves bare in slot `slot` binds as the parser needs it to -/
theorem slot_level {o : HOp} (ho : o ∈ ops) {slot : Nat} (hsl : slot < arity o) {t : T2}
    (hadm : admissible known ops t = true) (hch : childOk known ops o slot t = true) :
    (if slot = 0 then W.leB else W.ltB) (toW cx (fmt ops t (slotPrec o slot))) o.info.level = true :=
  W.fits_of_root (kn := isKnown known o slot) (top_fmt cx ops t _)
    (fun c hc => by simpa [childOk, hc] using hch)
    (fun c hc => tripleOK_of_sound hs ho (root_mem hadm hc) hsl)

variable (cx known ops) (hw : wfTable cx.levels ops = true)
include hw

theorem okTop_fmt (t : T2) (p : Int) (h : admissible known ops t = true) : okTop cx (fmt ops t p) = true := by
  induction t generalizing p with
  | leaf s r => exact okTop_atom cx s r
  | un k x ih =>
    simp only [admissible, Bool.and_eq_true, decide_eq_true_eq, Bool.or_eq_true, beq_iff_eq] at h
    obtain ⟨⟨⟨hk, hkd⟩, hcx⟩, hax⟩ := h
    have ho := getD_mem default hk
    simp only [fmt, wrap]
    generalize ops.getD k default = o at *
    have hrow : rowOk cx.levels o = true := List.all_eq_true.mp hw o ho
    have hx := slot_level (cx := cx) hs ho (slot := 0) (by rcases hkd with h | h <;> simp [arity, h]) hax hcx
    rcases hkd with hkd | hkd <;> simp only [rowOk, hkd] at hrow ⊢ <;> rw [okTop_ite_paren]
    · exact okTop_pre cx hrow hx (ih _ hax)
    · exact okTop_bin cx hrow hx rfl (ih _ hax) (okTop_atom cx _ _)
  | bin k l r ihl ihr =>
    simp only [admissible, Bool.and_eq_true, decide_eq_true_eq, beq_iff_eq] at h
    obtain ⟨⟨⟨⟨⟨hk, hkd⟩, hcl⟩, hcr⟩, hal⟩, har⟩ := h
    have ho := getD_mem default hk
    simp only [fmt, wrap]
    generalize ops.getD k default = o at *
    have hrow : rowOk cx.levels o = true := List.all_eq_true.mp hw o ho
    have har2 : arity o = 2 := by simp [arity, hkd]
    simp only [rowOk, hkd] at hrow
    rw [okTop_ite_paren]
    exact okTop_bin cx hrow (slot_level hs ho (slot := 0) (har2 ▸ by decide) hal hcl)
      (slot_level hs ho (slot := 1) (har2 ▸ by decide) har hcr) (ihl _ hal) (ihr _ har)
  | tern k a b c iha ihb ihc =>
    simp only [admissible, Bool.and_eq_true, decide_eq_true_eq, beq_iff_eq] at h
    obtain ⟨⟨⟨⟨⟨⟨⟨hk, hkd⟩, hca⟩, hcb⟩, hcc⟩, haa⟩, hab⟩, hac⟩ := h
    have ho := getD_mem default hk
    simp only [fmt, wrap]
    generalize ops.getD k default = o at *
    have hrow : rowOk cx.levels o = true := List.all_eq_true.mp hw o ho
    have har3 : arity o = 3 := by simp [arity, hkd]
    simp only [rowOk, hkd] at hrow
    rw [okTop_ite_paren]
    split at hrow
    · exact okTop_tern cx ‹_› hrow (slot_level hs ho (slot := 0) (har3 ▸ by decide) haa hca)
        (slot_level hs ho (slot := 1) (har3 ▸ by decide) hab hcb)
        (slot_level hs ho (slot := 2) (har3 ▸ by decide) hac hcc) (iha _ haa) (ihb _ hab) (ihc _ hac)
    · cases hrow

end MoSql.Fmt2
