import MoSql.Lemmas.InfixList
/-!
`make_tree` is correct on every precedence-compatible expression, of any size.

While the item list is `flat w` for a compatible tree `w` (leaves = values already built), the first level that
can reduce is the tightest level `k` occurring in `w`, and the occurrence it reduces is a node of `w` at level `k`
whose operands are all leaves: `w = c.fill x` for a one-hole context `c`, and the list becomes
`flat (c.fill (leaf (val x)))`.  Replacing a subtree by a leaf keeps well-formedness and compatibility, and
replacing it by the leaf that carries its value keeps the value.
-/
namespace MoSql.Infix
variable {V : Type}

/-- an operator node all of whose operands are leaves -/
def W.ripe : W V → Bool
  | .pre _ _ (.leaf _) | .suf _ (.leaf _) _ | .bin _ (.leaf _) _ (.leaf _)
  | .tern _ (.leaf _) _ (.leaf _) _ (.leaf _) => true
  | _ => false

/-- a tree with one hole -/
inductive Cx (V : Type) where
  | hole
  | pre (j : Nat) (t : Tok V) (c : Cx V)
  | suf (j : Nat) (c : Cx V) (t : Tok V)
  | binL (j : Nat) (c : Cx V) (t : Tok V) (r : W V)
  | binR (j : Nat) (l : W V) (t : Tok V) (c : Cx V)
  | ternA (j : Nat) (c : Cx V) (t0 : Tok V) (b : W V) (t1 : Tok V) (d : W V)
  | ternB (j : Nat) (a : W V) (t0 : Tok V) (c : Cx V) (t1 : Tok V) (d : W V)
  | ternC (j : Nat) (a : W V) (t0 : Tok V) (b : W V) (t1 : Tok V) (c : Cx V)

def Cx.fill : Cx V → W V → W V
  | .hole, x => x
  | .pre j t c, x => .pre j t (c.fill x)
  | .suf j c t, x => .suf j (c.fill x) t
  | .binL j c t r, x => .bin j (c.fill x) t r
  | .binR j l t c, x => .bin j l t (c.fill x)
  | .ternA j c t0 b t1 d, x => .tern j (c.fill x) t0 b t1 d
  | .ternB j a t0 c t1 d, x => .tern j a t0 (c.fill x) t1 d
  | .ternC j a t0 b t1 c, x => .tern j a t0 b t1 (c.fill x)

/-- the items written to the left of the hole -/
def Cx.left : Cx V → List (Item V)
  | .hole => []
  | .pre _ t c => .op t :: c.left
  | .suf _ c _ => c.left
  | .binL _ c _ _ => c.left
  | .binR _ l t c => l.flat ++ .op t :: c.left
  | .ternA _ c _ _ _ _ => c.left
  | .ternB _ a t0 c _ _ => a.flat ++ .op t0 :: c.left
  | .ternC _ a t0 b t1 c => a.flat ++ .op t0 :: (b.flat ++ .op t1 :: c.left)

/-- the items written to the right of the hole -/
def Cx.right : Cx V → List (Item V)
  | .hole => []
  | .pre _ _ c => c.right
  | .suf _ c t => c.right ++ [.op t]
  | .binL _ c t r => c.right ++ .op t :: r.flat
  | .binR _ _ _ c => c.right
  | .ternA _ c t0 b t1 d => c.right ++ .op t0 :: (b.flat ++ .op t1 :: d.flat)
  | .ternB _ _ _ c t1 d => c.right ++ .op t1 :: d.flat
  | .ternC _ _ _ _ _ c => c.right

theorem flat_fill (c : Cx V) (x : W V) : (c.fill x).flat = c.left ++ x.flat ++ c.right := by
  induction c <;> simp [Cx.fill, Cx.left, Cx.right, W.flat, *]

theorem val_fill (B : Builders V) (lv : List Level) (c : Cx V) (x : W V) :
    (c.fill (.leaf (x.val B lv))).val B lv = (c.fill x).val B lv := by
  induction c <;> simp only [Cx.fill, W.val, *]

theorem wf_fill {lv : List Level} {x : W V} (v : V) (c : Cx V) (h : (c.fill x).WF lv) : (c.fill (.leaf v)).WF lv := by
  induction c with
  | hole => trivial
  | pre _ _ _ ih | suf _ _ _ ih => exact ⟨h.1, ih h.2⟩
  | binL _ _ _ _ ih | ternA _ _ _ _ _ _ ih => exact ⟨h.1, ih h.2.1, h.2.2⟩
  | binR _ _ _ _ ih => exact ⟨h.1, h.2.1, ih h.2.2⟩
  | ternB _ _ _ _ _ _ ih => exact ⟨h.1, h.2.1, ih h.2.2.1, h.2.2.2⟩
  | ternC _ _ _ _ _ _ ih => exact ⟨h.1, h.2.1, h.2.2.1, ih h.2.2.2⟩

theorem wf_of_fill {lv : List Level} {x : W V} (c : Cx V) (h : (c.fill x).WF lv) : x.WF lv := by
  induction c with
  | hole => exact h
  | pre _ _ _ ih | suf _ _ _ ih => exact ih h.2
  | binL _ _ _ _ ih | ternA _ _ _ _ _ _ ih => exact ih h.2.1
  | binR _ _ _ _ ih => exact ih h.2.2
  | ternB _ _ _ _ _ _ ih => exact ih h.2.2.1
  | ternC _ _ _ _ _ _ ih => exact ih h.2.2.2

/-- a leaf in the hole binds as tight as anything: the root is the same operator, or none -/
theorem top_fill {x : W V} (v : V) {p : Nat → Prop} (c : Cx V) (h : ∀ j, (c.fill x).top = some j → p j) :
    ∀ j, (c.fill (.leaf v)).top = some j → p j := by
  cases c with
  | hole => exact fun _ e => nomatch e
  | _ => exact h

theorem compat_fill {x : W V} (v : V) (c : Cx V) (h : (c.fill x).Compat) : (c.fill (.leaf v)).Compat := by
  induction c with
  | hole => trivial
  | pre _ _ c ih | suf _ c _ ih => exact ⟨top_fill v c h.1, ih h.2⟩
  | binL _ c _ _ ih => exact ⟨top_fill v c h.1, h.2.1, ih h.2.2.1, h.2.2.2⟩
  | binR _ _ _ c ih => exact ⟨h.1, top_fill v c h.2.1, h.2.2.1, ih h.2.2.2⟩
  | ternA _ c _ _ _ _ ih => exact ⟨top_fill v c h.1, h.2.1, h.2.2.1, ih h.2.2.2.1, h.2.2.2.2⟩
  | ternB _ _ _ c _ _ ih => exact ⟨h.1, top_fill v c h.2.1, h.2.2.1, h.2.2.2.1, ih h.2.2.2.2.1, h.2.2.2.2.2⟩
  | ternC _ _ _ _ _ c ih => exact ⟨h.1, h.2.1, top_fill v c h.2.2.1, h.2.2.2.1, h.2.2.2.2.1, ih h.2.2.2.2.2⟩

theorem leaf_of_lt {x : W V} {n : Nat} (hlt : x.lt n) (hge : ∀ j ∈ x.levels, n ≤ j) : ∃ v, x = .leaf v := by
  cases x with
  | leaf v => exact ⟨v, rfl⟩
  | _ => exact absurd (hlt _ rfl) (Nat.not_lt.2 (hge _ List.mem_cons_self))

theorem leaf_of_le {x : W V} {k : Nat} (hle : x.le k) (h : ∀ j ∈ x.levels, k < j) : ∃ v, x = .leaf v :=
  leaf_of_lt (n := k + 1) (fun j e => Nat.lt_succ_of_le (hle j e)) h

theorem above_of {k : Nat} {xs : List Nat} (hge : ∀ j ∈ xs, k ≤ j) (hk : k ∉ xs) : ∀ j ∈ xs, k < j :=
  fun j hj => Nat.lt_of_le_of_ne (hge j hj) fun e => hk (e ▸ hj)

theorem getD_of_getElem? {lv : List Level} {k : Nat} {L : Level} (h : lv[k]? = some L) :
    lv.getD k default = L := by
  simp [List.getD, h]

theorem level_of_mem {lv : List Level} {w : W V} (hwf : w.WF lv) : ∀ k ∈ w.levels, ∃ Lk, lv[k]? = some Lk := by
  induction w with
    simp only [W.levels, List.forall_mem_cons, List.forall_mem_append]
  | leaf => exact fun _ h => nomatch h
  | pre _ _ _ ih | suf _ _ _ ih => exact ⟨hwf.1.imp fun _ h => h.1, ih hwf.2⟩
  | bin _ _ _ _ ihl ihr => exact ⟨hwf.1.imp fun _ h => h.1, ihl hwf.2.1, ihr hwf.2.2⟩
  | tern _ _ _ _ _ _ iha ihb ihc => exact ⟨hwf.1.imp fun _ h => h.1, iha hwf.2.1, ihb hwf.2.2.1, ihc hwf.2.2.2⟩

theorem ne_of_kind_ne {lv : List Level} {j k : Nat} {Lj Lk : Level} (hj : lv[j]? = some Lj)
    (hk : lv[k]? = some Lk) (h : Lj.kind ≠ Lk.kind) : j ≠ k := by
  rintro rfl
  exact h (congrArg Level.kind (Option.some.inj (hj.symm.trans hk)))

section
variable {lv : List Level} (hOK : LevelsOK lv) {k : Nat} {Lk : Level} (hLk : lv[k]? = some Lk)
include hOK hLk

/-- a token of another level `j` is not the token of level `k`; the second token of a ternary level `j` is not, as long
as `k` is not looser than `j` (it may be shared with a looser level: `AND`) -/
theorem id0_ne {j : Nat} {Lj : Level} {t : Tok V} (hj : lv[j]? = some Lj) (hid : Lj.id0 = t.id) (hne : k ≠ j) :
    (t.id == Lk.id0) = false :=
  beq_eq_false_iff_ne.2 fun h => hne (hOK.1 k j Lk Lj hLk hj (h.symm.trans hid.symm))

theorem id1_ne {j : Nat} {Lj : Level} {t : Tok V} (hj : lv[j]? = some Lj) (hkind : Lj.kind = Kind.tern)
    (hid : Lj.id1 = t.id) (hle : k ≤ j) : (t.id == Lk.id0) = false :=
  beq_eq_false_iff_ne.2 fun h => hOK.2 j k Lj Lk hj hkind hLk hle (h.symm.trans hid.symm)

theorem noTok_flat (w : W V) (hwf : w.WF lv) (h : ∀ j ∈ w.levels, k < j) : NoTok Lk.id0 w.flat := by
  induction w with
    simp only [W.levels, List.forall_mem_cons, List.forall_mem_append] at h
  | leaf v => simp [W.flat]
  | pre j t x ih | suf j x t ih =>
    obtain ⟨⟨Lj, hLj, _, hid⟩, hx⟩ := hwf
    simp [W.flat, id0_ne hOK hLk hLj hid (Nat.ne_of_lt h.1), ih hx h.2]
  | bin j l t r ihl ihr =>
    obtain ⟨⟨Lj, hLj, _, hid⟩, hl, hr⟩ := hwf
    simp [W.flat, id0_ne hOK hLk hLj hid (Nat.ne_of_lt h.1), ihl hl h.2.1, ihr hr h.2.2]
  | tern j a t0 b t1 c iha ihb ihc =>
    obtain ⟨⟨Lj, hLj, hkind, hid0, hid1⟩, ha, hb, hc⟩ := hwf
    simp [W.flat, id0_ne hOK hLk hLj hid0 (Nat.ne_of_lt h.1), id1_ne hOK hLk hLj hkind hid1 (Nat.le_of_lt h.1),
      iha ha h.2.1, ihb hb h.2.2.1, ihc hc h.2.2.2]

/-- Levels searched from the left (suffix, binary, ternary): the tightest level `k` has a ripe node in front of which
no token of that level stands.  It is found by descending into the first operand that contains level `k`; a node of
level `k` whose first operand does not is ripe, since its other operands bind strictly tighter. -/
theorem redexL (hkind : Lk.kind ≠ Kind.pre) (w : W V) (hwf : w.WF lv) (hc : w.Compat)
    (hge : ∀ j ∈ w.levels, k ≤ j) (hk : k ∈ w.levels) :
    ∃ (c : Cx V) (x : W V), w = c.fill x ∧ NoTok Lk.id0 c.left ∧ x.top = some k ∧ x.ripe = true := by
  induction w with
    (simp only [W.levels, List.forall_mem_cons, List.forall_mem_append] at hge
     simp only [W.levels, List.mem_cons, List.mem_append] at hk)
  | leaf => nomatch hk
  | pre j t x ih =>
    obtain ⟨⟨Lj, hLj, hkj, hid⟩, hx⟩ := hwf
    have hjk : k ≠ j := ne_of_kind_ne hLk hLj (hkj ▸ hkind)
    obtain ⟨c, y, rfl, hno, hy⟩ := ih hx hc.2 hge.2 (hk.resolve_left hjk)
    exact ⟨.pre j t c, y, rfl, by simp [Cx.left, id0_ne hOK hLk hLj hid hjk, hno], hy⟩
  | suf j x t ih =>
    by_cases hxk : k ∈ x.levels
    · obtain ⟨c, y, rfl, hy⟩ := ih hwf.2 hc.2 hge.2 hxk
      exact ⟨.suf j c t, y, rfl, hy⟩
    · obtain rfl := hk.resolve_right hxk
      obtain ⟨v, rfl⟩ := leaf_of_le hc.1 (above_of hge.2 hxk)
      exact ⟨.hole, _, rfl, noTok_nil _, rfl, rfl⟩
  | bin j l t r ihl ihr =>
    obtain ⟨⟨Lj, hLj, _, hid⟩, hl, hr⟩ := hwf
    by_cases hlk : k ∈ l.levels
    · obtain ⟨c, y, rfl, hy⟩ := ihl hl hc.2.2.1 hge.2.1 hlk
      exact ⟨.binL j c t r, y, rfl, hy⟩
    · by_cases hjk : k = j
      · subst hjk
        obtain ⟨a, rfl⟩ := leaf_of_le hc.1 (above_of hge.2.1 hlk)
        obtain ⟨b, rfl⟩ := leaf_of_lt hc.2.1 hge.2.2
        exact ⟨.hole, _, rfl, noTok_nil _, rfl, rfl⟩
      · obtain ⟨c, y, rfl, hno, hy⟩ := ihr hr hc.2.2.2 hge.2.2 ((hk.resolve_left hjk).resolve_left hlk)
        exact ⟨.binR j l t c, y, rfl, by
          simp [Cx.left, id0_ne hOK hLk hLj hid hjk, hno, noTok_flat hOK hLk l hl (above_of hge.2.1 hlk)], hy⟩
  | tern j a t0 b t1 d iha ihb ihd =>
    obtain ⟨⟨Lj, hLj, hkj, hid0, hid1⟩, ha, hb, hd⟩ := hwf
    by_cases hak : k ∈ a.levels
    · obtain ⟨c, y, rfl, hy⟩ := iha ha hc.2.2.2.1 hge.2.1 hak
      exact ⟨.ternA j c t0 b t1 d, y, rfl, hy⟩
    · by_cases hjk : k = j
      · subst hjk
        obtain ⟨va, rfl⟩ := leaf_of_le hc.1 (above_of hge.2.1 hak)
        obtain ⟨vb, rfl⟩ := leaf_of_lt hc.2.1 hge.2.2.1
        obtain ⟨vd, rfl⟩ := leaf_of_lt hc.2.2.1 hge.2.2.2
        exact ⟨.hole, _, rfl, noTok_nil _, rfl, rfl⟩
      · have h0 := id0_ne hOK hLk hLj hid0 hjk
        have hna := noTok_flat hOK hLk a ha (above_of hge.2.1 hak)
        by_cases hbk : k ∈ b.levels
        · obtain ⟨c, y, rfl, hno, hy⟩ := ihb hb hc.2.2.2.2.1 hge.2.2.1 hbk
          exact ⟨.ternB j a t0 c t1 d, y, rfl, by simp [Cx.left, h0, hna, hno], hy⟩
        · obtain ⟨c, y, rfl, hno, hy⟩ := ihd hd hc.2.2.2.2.2 hge.2.2.2
            (((hk.resolve_left hjk).resolve_left hak).resolve_left hbk)
          exact ⟨.ternC j a t0 b t1 c, y, rfl, by
            simp [Cx.left, h0, id1_ne hOK hLk hLj hkj hid1 hge.1, hna, hno,
              noTok_flat hOK hLk b hb (above_of hge.2.2.1 hbk)], hy⟩

/-- Prefix levels (searched from the right): the same with nothing of that level behind the node, descending into the
last operand that contains level `k`.  A token standing behind the hole belongs to a level of another kind. -/
theorem redexR (hkind : Lk.kind = Kind.pre) (w : W V) (hwf : w.WF lv) (hc : w.Compat)
    (hge : ∀ j ∈ w.levels, k ≤ j) (hk : k ∈ w.levels) :
    ∃ (c : Cx V) (x : W V), w = c.fill x ∧ NoTok Lk.id0 c.right ∧ x.top = some k ∧ x.ripe = true := by
  induction w with
    (simp only [W.levels, List.forall_mem_cons, List.forall_mem_append] at hge
     simp only [W.levels, List.mem_cons, List.mem_append] at hk)
  | leaf => nomatch hk
  | pre j t x ih =>
    by_cases hxk : k ∈ x.levels
    · obtain ⟨c, y, rfl, hy⟩ := ih hwf.2 hc.2 hge.2 hxk
      exact ⟨.pre j t c, y, rfl, hy⟩
    · obtain rfl := hk.resolve_right hxk
      obtain ⟨v, rfl⟩ := leaf_of_le hc.1 (above_of hge.2 hxk)
      exact ⟨.hole, _, rfl, noTok_nil _, rfl, rfl⟩
  | suf j x t ih =>
    obtain ⟨⟨Lj, hLj, hkj, hid⟩, hx⟩ := hwf
    have hjk : k ≠ j := ne_of_kind_ne hLk hLj (by simp [hkj, hkind])
    obtain ⟨c, y, rfl, hno, hy⟩ := ih hx hc.2 hge.2 (hk.resolve_left hjk)
    exact ⟨.suf j c t, y, rfl, by simp [Cx.right, id0_ne hOK hLk hLj hid hjk, hno], hy⟩
  | bin j l t r ihl ihr =>
    obtain ⟨⟨Lj, hLj, hkj, hid⟩, hl, hr⟩ := hwf
    have hjk : k ≠ j := ne_of_kind_ne hLk hLj (by simp [hkj, hkind])
    by_cases hrk : k ∈ r.levels
    · obtain ⟨c, y, rfl, hy⟩ := ihr hr hc.2.2.2 hge.2.2 hrk
      exact ⟨.binR j l t c, y, rfl, hy⟩
    · obtain ⟨c, y, rfl, hno, hy⟩ := ihl hl hc.2.2.1 hge.2.1 ((hk.resolve_left hjk).resolve_right hrk)
      exact ⟨.binL j c t r, y, rfl, by
        simp [Cx.right, id0_ne hOK hLk hLj hid hjk, hno, noTok_flat hOK hLk r hr (above_of hge.2.2 hrk)], hy⟩
  | tern j a t0 b t1 d iha ihb ihd =>
    obtain ⟨⟨Lj, hLj, hkj, hid0, hid1⟩, ha, hb, hd⟩ := hwf
    have hjk : k ≠ j := ne_of_kind_ne hLk hLj (by simp [hkj, hkind])
    have h1 := id1_ne hOK hLk hLj hkj hid1 hge.1
    by_cases hdk : k ∈ d.levels
    · obtain ⟨c, y, rfl, hy⟩ := ihd hd hc.2.2.2.2.2 hge.2.2.2 hdk
      exact ⟨.ternC j a t0 b t1 c, y, rfl, hy⟩
    · have hnd := noTok_flat hOK hLk d hd (above_of hge.2.2.2 hdk)
      by_cases hbk : k ∈ b.levels
      · obtain ⟨c, y, rfl, hno, hy⟩ := ihb hb hc.2.2.2.2.1 hge.2.2.1 hbk
        exact ⟨.ternB j a t0 c t1 d, y, rfl, by simp [Cx.right, h1, hnd, hno], hy⟩
      · obtain ⟨c, y, rfl, hno, hy⟩ := iha ha hc.2.2.2.1 hge.2.1
          ((hk.resolve_left hjk).resolve_right (not_or.2 ⟨hbk, hdk⟩))
        exact ⟨.ternA j c t0 b t1 d, y, rfl, by
          simp [Cx.right, id0_ne hOK hLk hLj hid0 hjk, h1, hnd, hno,
            noTok_flat hOK hLk b hb (above_of hge.2.2.1 hbk)], hy⟩

end

/-- level `k` reduces a ripe node of its own: a prefix level when nothing of that level stands behind the node, the
other levels when nothing of that level stands in front of it -/
theorem reduce_ripe (B : Builders V) {lv : List Level} {k : Nat} {Lk : Level} (hLk : lv[k]? = some Lk)
    {x : W V} (hwf : x.WF lv) (htop : x.top = some k) (hr : x.ripe = true) (Lf R : List (Item V))
    (hno : if Lk.kind = Kind.pre then NoTok Lk.id0 R else NoTok Lk.id0 Lf) :
    reduce B Lk (Lf ++ x.flat ++ R) = some (Lf ++ .val (x.val B lv) :: R) := by
  unfold W.ripe at hr
  split at hr
  · obtain ⟨⟨L, hL, hkind, hid⟩, _⟩ := hwf
    cases htop
    cases Option.some.inj (hL.symm.trans hLk)
    rw [if_pos hkind] at hno
    simpa [W.flat, W.val, hLk, Item.asVal] using reduce_pre_hit B Lf R hkind hid hno (isOp_val _ _)
  · obtain ⟨⟨L, hL, hkind, hid⟩, _⟩ := hwf
    cases htop
    cases Option.some.inj (hL.symm.trans hLk)
    rw [if_neg (by simp [hkind])] at hno
    simpa [W.flat, W.val, hLk, Item.asVal] using reduce_suf_hit B Lf R hkind hid hno (isOp_val _ _)
  · obtain ⟨⟨L, hL, hkind, hid⟩, _⟩ := hwf
    cases htop
    cases Option.some.inj (hL.symm.trans hLk)
    rw [if_neg (by simp [hkind])] at hno
    simpa [W.flat, W.val, hLk, Item.asVal] using reduce_bin_hit B Lf R hkind hid hno (isOp_val _ _)
  · obtain ⟨⟨L, hL, hkind, hid0, hid1⟩, _⟩ := hwf
    cases htop
    cases Option.some.inj (hL.symm.trans hLk)
    rw [if_neg (by simp [hkind])] at hno
    simpa [W.flat, W.val, hLk, Item.asVal] using reduce_tern_hit B Lf R hkind hid0 hid1 hno (isOp_val _ _)
  · cases hr

theorem firstReduce_eq_findSome? (B : Builders V) (lv : List Level) (xs : List (Item V)) :
    firstReduce B lv xs = lv.findSome? (reduce B · xs) := by
  induction lv with
  | nil => rfl
  | cons L ls ih => rw [firstReduce, List.findSome?_cons, ih]; cases reduce B L xs <;> rfl

theorem firstReduce_at (B : Builders V) {items r : List (Item V)} {lv : List Level} {k : Nat} {Lk : Level}
    (hLk : lv[k]? = some Lk) (hr : reduce B Lk items = some r)
    (hlt : ∀ j Lj, j < k → lv[j]? = some Lj → reduce B Lj items = none) : firstReduce B lv items = some r := by
  induction lv generalizing k with
  | nil => cases hLk
  | cons L ls ih =>
    cases k with
    | zero => cases hLk; simp [firstReduce, hr]
    | succ k =>
      rw [firstReduce, hlt 0 L (Nat.succ_pos _) rfl]
      exact ih hLk fun j Lj hj => hlt (j + 1) Lj (Nat.succ_lt_succ hj)

theorem firstReduce_length (B : Builders V) {lv : List Level} {xs ys : List (Item V)}
    (h : firstReduce B lv xs = some ys) : ys.length < xs.length := by
  obtain ⟨L, _, hL⟩ := List.exists_of_findSome?_eq_some (firstReduce_eq_findSome? B lv xs ▸ h)
  exact reduce_length B L xs ys hL

theorem firstReduce_single (B : Builders V) (x : Item V) (lv : List Level) : firstReduce B lv [x] = none := by
  rw [firstReduce_eq_findSome?, List.findSome?_eq_none_iff]
  intro L _
  unfold reduce
  cases L.kind <;> rfl

theorem run_none {B : Builders V} {lv : List Level} {xs : List (Item V)} (h : firstReduce B lv xs = none) (n : Nat) :
    run B lv n xs = xs := by
  cases n <;> simp [run, h]

theorem makeTree_single (B : Builders V) (lv : List Level) (x : Item V) : makeTree B lv [x] = ⟨some x.asVal, []⟩ := by
  simp [makeTree, run_none (firstReduce_single B x lv)]

theorem step_flat (B : Builders V) (lv : List Level) (hOK : LevelsOK lv) (w : W V)
    (hwf : w.WF lv) (hc : w.Compat) (hne : w.levels ≠ []) :
    ∃ w' : W V, firstReduce B lv w.flat = some w'.flat ∧ w'.WF lv ∧ w'.Compat ∧
      w'.val B lv = w.val B lv := by
  obtain ⟨k, hk⟩ := Option.isSome_iff_exists.1 (List.isSome_min?_of_ne_nil hne)
  obtain ⟨hk, hge⟩ := List.min?_eq_some_iff.1 hk
  obtain ⟨Lk, hLk⟩ := level_of_mem hwf k hk
  have hnone : ∀ i Li, i < k → lv[i]? = some Li → reduce B Li w.flat = none := fun i Li hi hLi =>
    reduce_none B Li _ (noTok_flat hOK hLi w hwf fun j hj => Nat.lt_of_lt_of_le hi (hge j hj))
  have key : ∃ (c : Cx V) (x : W V), w = c.fill x ∧
      (if Lk.kind = Kind.pre then NoTok Lk.id0 c.right else NoTok Lk.id0 c.left) ∧ x.top = some k ∧ x.ripe = true := by
    by_cases hkind : Lk.kind = Kind.pre
    · simpa only [if_pos hkind] using redexR hOK hLk hkind w hwf hc hge hk
    · simpa only [if_neg hkind] using redexL hOK hLk hkind w hwf hc hge hk
  obtain ⟨c, x, rfl, hno, htop, hr⟩ := key
  refine ⟨c.fill (.leaf (x.val B lv)), ?_, wf_fill _ c hwf, compat_fill _ c hc, val_fill B lv c x⟩
  refine firstReduce_at B hLk ?_ hnone
  simpa [flat_fill, W.flat] using reduce_ripe B hLk (wf_of_fill c hwf) htop hr c.left c.right hno

/-- **the loop computes the precedence tree**, for every compatible expression of any size -/
theorem run_flat (B : Builders V) (lv : List Level) (hOK : LevelsOK lv) (n : Nat) (w : W V) (hwf : w.WF lv)
    (hc : w.Compat) (hlen : w.flat.length ≤ n) : run B lv n w.flat = [.val (w.val B lv)] := by
  induction n generalizing w with
  | zero => cases w <;> simp [W.flat] at hlen
  | succ n ih =>
    by_cases hne : w.levels = []
    · cases w <;> simp [W.levels] at hne
      exact run_none (firstReduce_single B _ lv) _
    · obtain ⟨w', hstep, hwf', hc', hval⟩ := step_flat B lv hOK w hwf hc hne
      have hlt := firstReduce_length B hstep
      simp only [run, hstep]
      rw [ih w' hwf' hc' (by omega), hval]

theorem makeTree_flat (B : Builders V) (lv : List Level) (hOK : LevelsOK lv) (w : W V)
    (hwf : w.WF lv) (hc : w.Compat) :
    makeTree B lv w.flat = ⟨some (w.val B lv), []⟩ := by
  simp [makeTree, run_flat B lv hOK _ w hwf hc (Nat.le_refl _), Item.asVal]

end MoSql.Infix
