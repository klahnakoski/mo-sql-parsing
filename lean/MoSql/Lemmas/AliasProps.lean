import MoSql.Alias
namespace MoSql.Alias

theorem collapse_owned : ∀ (xs : List PT), ownedList xs = true → owned (collapse xs) = true
  | [], _ => rfl
  | [_], h => (Bool.and_eq_true_iff.mp h).1
  | _ :: _ :: _, h => h

theorem scrubP_call {pol : Policy} (hp : pol.emptyDictFresh = true) (op : String) (args : Raw)
    (kw : List (String × Raw)) :
    scrubP pol (.call op args kw) = .obj .fresh ((op, scrubP pol args) :: scrubKwP pol kw) := by
  cases kw with
  | nil => exact congrArg (PT.obj · _) (if_pos hp)
  | cons => rfl

theorem scrubP_dict {pol : Policy} (hp : pol.emptyDictFresh = true) (kvs : List (String × Raw)) :
    scrubP pol (.dict kvs) = .obj .fresh (scrubKwP pol kvs) := by
  cases kvs with
  | nil => exact congrArg (PT.obj · _) (if_pos hp)
  | cons => rfl

mutual
theorem scrubP_owned (pol : Policy) (hp : pol.emptyDictFresh = true) : ∀ r : Raw, owned (scrubP pol r) = true := by
  intro r
  cases r with
  | call op args kw =>
    rw [scrubP_call hp]
    exact Bool.and_eq_true_iff.mpr ⟨scrubP_owned pol hp args, scrubKwP_owned pol hp kw⟩
  | list xs => exact collapse_owned _ (scrubListP_owned pol hp xs)
  | grp r => exact scrubP_owned pol hp r
  | dict kvs =>
    rw [scrubP_dict hp]
    exact scrubKwP_owned pol hp kvs
  | _ => rfl
theorem scrubListP_owned (pol : Policy) (hp : pol.emptyDictFresh = true) : ∀ rs : List Raw, ownedList (scrubListP pol rs) = true
  | [] => rfl
  | r :: rs => Bool.and_eq_true_iff.mpr ⟨scrubP_owned pol hp r, scrubListP_owned pol hp rs⟩
theorem scrubKwP_owned (pol : Policy) (hp : pol.emptyDictFresh = true) : ∀ kvs : List (String × Raw), ownedKvs (scrubKwP pol kvs) = true
  | [] => rfl
  | (_, r) :: rest => Bool.and_eq_true_iff.mpr ⟨scrubP_owned pol hp r, scrubKwP_owned pol hp rest⟩
end

mutual
theorem substP_owned (pol : Policy) (u : Bool) (hd : pol.defaultNullFresh = true) : ∀ t : PT, owned t = true → owned (substP pol u t) = true := by
  intro t h
  cases t with
  | slot =>
    cases u
    · simp [substP, owned, ownedKvs, hd]
    · rfl
  | leaf => rfl
  | arr p xs =>
    exact Bool.and_eq_true_iff.mpr <| (Bool.and_eq_true_iff.mp h).imp_right (substListP_owned pol u hd xs)
  | obj p kvs =>
    exact Bool.and_eq_true_iff.mpr <| (Bool.and_eq_true_iff.mp h).imp_right (substKvsP_owned pol u hd kvs)
theorem substListP_owned (pol : Policy) (u : Bool) (hd : pol.defaultNullFresh = true) : ∀ xs : List PT, ownedList xs = true → ownedList (substListP pol u xs) = true
  | [], _ => rfl
  | x :: xs, h => Bool.and_eq_true_iff.mpr <|
    (Bool.and_eq_true_iff.mp h).imp (substP_owned pol u hd x) (substListP_owned pol u hd xs)
theorem substKvsP_owned (pol : Policy) (u : Bool) (hd : pol.defaultNullFresh = true) : ∀ kvs : List (String × PT), ownedKvs kvs = true → ownedKvs (substKvsP pol u kvs) = true
  | [], _ => rfl
  | (_, x) :: rest, h => Bool.and_eq_true_iff.mpr <|
    (Bool.and_eq_true_iff.mp h).imp (substP_owned pol u hd x) (substKvsP_owned pol u hd rest)
end

/-- any number of caller mutations, each on an object the library does not reach at that moment -/
def writes : Heap → List (Nat × List Nat) → Heap
  | h, [] => h
  | h, (o, refs) :: rest => writes (write h o refs) rest

theorem writes_of_not_written (a : Nat) (ws : List (Nat × List Nat)) (h : Heap)
    (hw : ∀ w ∈ ws, w.1 ≠ a) : writes h ws a = h a := by
  induction ws generalizing h with
  | nil => rfl
  | cons w _ ih =>
    have ⟨hw1, hws⟩ := List.forall_mem_cons.mp hw
    rw [writes, ih _ hws]
    exact if_neg (Ne.symm hw1)

theorem reach_congr {h h' : Heap} {lib : List Nat} (e : ∀ a, Reach h lib a → h' a = h a) (a : Nat) :
    Reach h' lib a ↔ Reach h lib a := by
  constructor <;> intro r
  · induction r with
    | root hr => exact .root hr
    | step _ hb ih => exact .step ih (e _ ih ▸ hb)
  · induction r with
    | root hr => exact .root hr
    | step hr hb ih => exact .step ih (e _ hr ▸ hb)

theorem frame_many (lib : List Nat) (ws : List (Nat × List Nat)) (h : Heap)
    (hw : ∀ w ∈ ws, ¬ Reach h lib w.1) (a : Nat) (ha : Reach h lib a) :
    Reach (writes h ws) lib a ∧ writes h ws a = h a :=
  have e : ∀ b, Reach h lib b → writes h ws b = h b :=
    fun b hb => writes_of_not_written b ws h fun w m eq => hw w m (eq ▸ hb)
  ⟨(reach_congr e a).mpr ha, e a ha⟩

end MoSql.Alias
