import MoSql.Scrub
/-! What the building blocks of `scrub` compute: `mark`, `collapse`, `J.setKey` / `setKeySlot`, `applyOp` in
each `calls=` mode.  The properties of `scrub` are proved from these, without unfolding the blocks again. -/
namespace MoSql.Scrub
open MoSql

theorem mark_isNull (j : J) : (mark j).isNull = j.isNull := by
  cases j <;> rfl

/-- `collapse` once the `None`s are dropped -/
def pack : List J → J
  | [] => .null
  | [x] => x
  | ys => .arr (ys.map mark)

theorem collapse_eq (xs : List J) : collapse xs = pack (xs.filter (fun j => !j.isNull)) := rfl

theorem collapse_singleton (x : J) : collapse [x] = x := by
  cases x <;> rfl

theorem collapse_many (ys : List J) (hn : ∀ y ∈ ys, y.isNull = false) (hl : 2 ≤ ys.length) :
    collapse ys = .arr (ys.map mark) := by
  rw [collapse_eq, List.filter_eq_self.mpr fun y hy => by rw [hn y hy]; rfl]
  match ys, hl with
  | _ :: _ :: _, _ => rfl

theorem scrub_grp (c : Cfg) (r : Raw) : scrub c (.grp r) = scrub c r :=
  collapse_singleton _

theorem scrubList_eq_map (c : Cfg) (rs : List Raw) : scrubList c rs = rs.map (scrub c) := by
  induction rs with
  | nil => rfl
  | cons r rs ih => rw [scrubList, ih, List.map_cons]

theorem scrubKw_cons_null {c : Cfg} {r : Raw} (h : (scrub c r).isNull = true) (k : String)
    (rest : List (String × Raw)) : scrubKw c ((k, r) :: rest) = scrubKw c rest :=
  if_pos h

theorem scrubKw_cons {c : Cfg} {r : Raw} (h : (scrub c r).isNull = false) (k : String)
    (rest : List (String × Raw)) : scrubKw c ((k, r) :: rest) = (k, mark (scrub c r)) :: scrubKw c rest :=
  if_neg (Bool.eq_false_iff.mp h)

/-- a clause slot whose value scrubs to `None` is dropped, the others keep their key and order -/
theorem scrubKw_eq (c : Cfg) (kvs : List (String × Raw)) :
    scrubKw c kvs = (kvs.filter fun kv => !(scrub c kv.2).isNull).map fun kv => (kv.1, mark (scrub c kv.2)) := by
  induction kvs with
  | nil => rfl
  | cons kv rest ih =>
    rw [List.filter_cons]
    cases hn : (scrub c kv.2).isNull
    · rw [scrubKw_cons hn, ih]; rfl
    · rw [scrubKw_cons_null hn, ih]; rfl

theorem scrubKw_keys (c : Cfg) (kvs : List (String × Raw)) :
    (scrubKw c kvs).map (·.1) = (kvs.filter (fun kv => !(scrub c kv.2).isNull)).map (·.1) := by
  rw [scrubKw_eq, List.map_map]
  rfl

theorem scrubKw_value (c : Cfg) (kvs : List (String × Raw)) (k : String) (r : Raw)
    (h : (k, r) ∈ kvs) (hn : (scrub c r).isNull = false) : (k, mark (scrub c r)) ∈ scrubKw c kvs := by
  rw [scrubKw_eq]
  exact List.mem_map.mpr ⟨(k, r), List.mem_filter.mpr ⟨h, by rw [hn]; rfl⟩, rfl⟩

theorem setKey_fresh (kw : List (String × J)) {k : String} (v : J)
    (h : (kw.map (·.1)).contains k = false) : J.setKey kw k v = kw ++ [(k, v)] := by
  induction kw with
  | nil => rfl
  | cons _ _ ih =>
    simp only [List.map_cons, List.contains_cons, Bool.or_eq_false_iff, beq_eq_false_iff_ne] at h
    rw [J.setKey, if_neg fun e => h.1 (eq_of_beq e).symm, ih h.2]
    rfl

theorem getKey_fresh (kw : List (String × J)) {k : String}
    (h : (kw.map (·.1)).contains k = false) : J.getKey kw k = none := by
  induction kw with
  | nil => rfl
  | cons _ _ ih =>
    simp only [List.map_cons, List.contains_cons, Bool.or_eq_false_iff, beq_eq_false_iff_ne] at h
    rw [J.getKey, if_neg fun e => h.1 (eq_of_beq e).symm, ih h.2]

theorem setKeySlot_fresh (kw : List (String × J)) {k : String} (v : J)
    (h : (kw.map (·.1)).contains k = false) : setKeySlot kw k v = kw ++ [(k, v)] := by
  rw [setKeySlot, getKey_fresh kw h, setKey_fresh kw v h]

theorem mem_setKey {kw : List (String × J)} {k : String} {v : J} {x : String × J}
    (h : x ∈ J.setKey kw k v) : x ∈ kw ∨ x.2 = v := by
  induction kw with
  | nil => exact .inr (List.mem_singleton.mp h ▸ rfl)
  | cons _ _ ih =>
    unfold J.setKey at h
    split at h
    · rcases List.mem_cons.mp h with rfl | m
      · exact .inr rfl
      · exact .inl (List.mem_cons_of_mem _ m)
    · rcases List.mem_cons.mp h with rfl | m
      · exact .inl List.mem_cons_self
      · exact (ih m).imp_left (List.mem_cons_of_mem _)

theorem mem_setKeySlot {kw : List (String × J)} {k : String} {v : J} {x : String × J}
    (h : x ∈ setKeySlot kw k v) : x ∈ kw ∨ x.2 = v := by
  unfold setKeySlot at h
  split at h
  · exact .inl h
  · exact mem_setKey h

/-- what `simple_op` stores under the name of the operation -/
def simpleArg (a : J) : J := if a.isNull then .obj [] else mark a

theorem applyOp_simple {c : Cfg} (hc : c.mode = .simple) (op : String) (a : J) (kw : List (String × J)) :
    applyOp c op a kw = .obj (if a.isMarker then J.setKey kw (c.rename op) (simpleArg a)
      else setKeySlot kw (c.rename op) (simpleArg a)) := by
  unfold applyOp
  simp only [hc]
  cases a <;> rfl

theorem applyOp_simple_fresh {c : Cfg} (hc : c.mode = .simple) {op : String} {kw : List (String × J)}
    (hk : (kw.map (·.1)).contains (c.rename op) = false) (a : J) :
    applyOp c op a kw = .obj (kw ++ [(c.rename op, simpleArg a)]) := by
  rw [applyOp_simple hc, setKey_fresh kw _ hk, setKeySlot_fresh kw _ hk, ite_self]

/-- the node `normal_op` writes for the operands `args`, `kw`; the same term as the left side of `Conv.node`
(Lemmas/NormalSimple.lean), which `conv_applyOp` relies on -/
def normalNode (name : String) (args : List J) (kw : List (String × J)) : J :=
  .obj ([("op", .str name)] ++ (if args.isEmpty then [] else [("args", .arr args)])
    ++ (if kw.isEmpty then [] else [("kwargs", .obj kw)]))

theorem applyOp_normal {c : Cfg} (hc : c.mode = .normal) (op : String) (a : J) (kw : List (String × J)) :
    applyOp c op a kw = normalNode (c.rename op) (if a.isMarker then [.marker false] else listwrap a)
      (if a.isMarker && !kw.isEmpty then J.setKey kw (c.rename op) (.marker true) else kw) := by
  unfold applyOp normalNode
  simp only [hc]
  cases a.isMarker
  · cases listwrap a <;> rfl
  · cases kw <;> rfl

end MoSql.Scrub
