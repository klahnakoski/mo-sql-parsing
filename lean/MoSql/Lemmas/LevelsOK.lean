import MoSql.Prec
import MoSql.Gen.Levels
namespace MoSql.Infix

/-- the Boolean table check implies the structural facts the reducer relies on -/
theorem levelsOK_of_B {lv : List Level} (h : levelsOKB lv = true) : LevelsOK lv := by
  simp only [levelsOKB, List.all_eq_true, Prod.forall, List.mk_mem_zipIdx_iff_getElem?] at h
  constructor
  · intro i j Li Lj hi hj hid
    have := h Li i hi Lj j hj
    simp [hid] at this
    exact this.1
  · intro t j Lt Lj ht hkind hj hle
    have := h Lt t ht Lj j hj
    simp [hkind, hle] at this
    exact this.2

theorem levelsOK_gen : LevelsOK Gen.levels := levelsOK_of_B (by decide +kernel)

end MoSql.Infix
