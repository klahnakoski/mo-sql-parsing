import MoSql.Skip
namespace MoSql.Skip

theorem go_N_white (c : Char) (r : List Char) (h : isWhite c = true) : go .N (c :: r) = go .N r := by
  cases r <;> simp [go, h]

theorem go_N_hash (r : List Char) : go .N ('#' :: r) = go .L r := by
  cases r <;> rfl

theorem go_N_dash (r : List Char) : go .N ('-' :: '-' :: r) = go .L r := rfl

theorem go_N_block (r : List Char) : go .N ('/' :: '*' :: r) = some ((go .B r).getD ('/' :: '*' :: r)) := by
  rw [go]; cases go .B r <;> rfl

/-- the first character of the rest cannot begin a filler -/
def stopsHere : List Char → Bool
  | [] => true
  | c :: cs =>
    !isWhite c && c != '#' &&
    !(c == '-' && cs.head? == some '-') && !(c == '/' && cs.head? == some '*')

theorem skip_stops (r : List Char) (h : stopsHere r = true) : skip r = r := by
  match r, h with
  | [], _ => rfl
  | [c], h =>
    simp only [stopsHere, Bool.and_eq_true, Bool.not_eq_true', bne_iff_ne] at h
    simp [skip, goN, go, h.1.1]
  | c :: c2 :: cs, h =>
    simp only [stopsHere, List.head?_cons, Option.some_beq_some, Bool.and_eq_true, Bool.not_eq_true', bne_iff_ne] at h
    simp [skip, goN, go, h]

theorem go_L_line (r body : List Char) (h : ∀ c ∈ body, c ≠ '\n') : go .L (body ++ '\n' :: r) = go .N r := by
  induction body with
  | nil => rfl
  | cons c body ih =>
    rw [List.forall_mem_cons] at h
    rw [List.cons_append, go, if_neg (by simpa using h.1), ih h.2]

/-- no `*/` inside the comment body, and the body does not end in `*` … followed by the closing `*/`
that would be read as `*` `/`: stated on the body together with the first closing character -/
def noClose : List Char → Bool
  | [] => true
  | [_] => true
  | c :: c2 :: cs => !(c == '*' && c2 == '/') && noClose (c2 :: cs)

theorem go_B_block (r body : List Char) (h : noClose (body ++ ['*']) = true) :
    go .B (body ++ '*' :: '/' :: r) = go .N r := by
  fun_induction noClose body with
  | case1 => rfl
  | case2 c => simp [go]
  | case3 c c2 body ih =>
    simp only [List.cons_append, noClose, Bool.and_eq_true, Bool.not_eq_true'] at h
    rw [List.cons_append, List.cons_append, go, h.1]
    exact ih h.2

theorem go_isSome (m : Mode) (x : List Char) (hm : m ≠ .B) : (go m x).isSome = true := by
  fun_induction go m x with
  -- the answer is at hand
  | case1 | case2 | case3 | case7 | case8 | case9 | case10 => rfl
  -- it is the answer of a call in mode `N` or `L`
  | case4 _ _ _ _ ih | case5 _ _ _ _ _ ih | case6 _ _ _ _ _ _ ih | case11 _ _ _ ih | case12 _ _ _ ih => exact ih (by decide)
  -- mode `B`
  | case13 | case14 | case15 | case16 => exact absurd rfl hm

theorem go_N_eq_skip (x : List Char) : go .N x = some (skip x) := by
  obtain ⟨r, h⟩ := Option.isSome_iff_exists.mp (go_isSome .N x (by decide))
  rw [skip, goN, h]; rfl

/-- text that the comment-aware engine skips entirely: white characters and terminated comments -/
inductive Filler : List Char → Prop where
  | nil : Filler []
  | white (c : Char) (f : List Char) : isWhite c = true → Filler f → Filler (c :: f)
  | dash (body f : List Char) : (∀ c ∈ body, c ≠ '\n') → Filler f → Filler ('-' :: '-' :: (body ++ '\n' :: f))
  | hash (body f : List Char) : (∀ c ∈ body, c ≠ '\n') → Filler f → Filler ('#' :: (body ++ '\n' :: f))
  | block (body f : List Char) : noClose (body ++ ['*']) = true → Filler f →
      Filler ('/' :: '*' :: (body ++ '*' :: '/' :: f))

/-- the engine skips a whole filler, whatever follows -/
theorem go_filler (r f : List Char) (hf : Filler f) : go .N (f ++ r) = go .N r := by
  induction hf with
  | nil => rfl
  | white c f hw _ ih => rw [List.cons_append, go_N_white _ _ hw, ih]
  | dash body f hb _ ih =>
    simp only [List.cons_append, List.append_assoc]
    rw [go_N_dash, go_L_line _ body hb, ih]
  | hash body f hb _ ih =>
    simp only [List.cons_append, List.append_assoc]
    rw [go_N_hash, go_L_line _ body hb, ih]
  | block body f hb _ ih =>
    simp only [List.cons_append, List.append_assoc]
    rw [go_N_block, go_B_block _ body hb, ih, go_N_eq_skip r]; rfl

theorem skip_filler (f r : List Char) (hf : Filler f) : skip (f ++ r) = skip r :=
  Option.some.inj (by rw [← go_N_eq_skip, ← go_N_eq_skip, go_filler r f hf])

/-- the engine only ever moves forward: what is left is never longer than the text -/
theorem go_le (m : Mode) (x r : List Char) (h : go m x = some r) : r.length ≤ x.length := by
  fun_induction go m x generalizing r with
  | case13 | case14 => cases h
  -- nothing more is read
  | case1 | case2 | case3 | case8 | case9 | case10 => cases h; simp
  -- one character is read
  | case4 _ _ _ _ ih | case5 _ _ _ _ _ ih | case11 _ _ _ ih | case12 _ _ _ ih | case16 _ _ _ _ ih =>
    exact Nat.le_succ_of_le (ih r h)
  -- two characters are read
  | case6 _ _ _ _ _ _ ih | case15 _ _ _ _ ih => exact Nat.le_succ_of_le (Nat.le_succ_of_le (ih r h))
  | case7 _ _ _ _ _ _ _ _ h0 ih => cases h; exact Nat.le_succ_of_le (Nat.le_succ_of_le (ih _ h0))

theorem skip_le (x : List Char) : (skip x).length ≤ x.length :=
  go_le .N x _ (go_N_eq_skip x)

end MoSql.Skip
