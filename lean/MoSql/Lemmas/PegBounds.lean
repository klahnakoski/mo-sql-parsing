import MoSql.Lemmas.PegSim
import MoSql.Lemmas.SkipProps
/-!
The recogniser engine only moves forward: what a terminal, and so a whole match, leaves over is never longer than the
text it was given, so every position the engine reports lies inside the input.  An invariant of the places the engine
visits (`run_inv`) is the simulation of `PegSim` read on its diagonal: one text, related to itself.
-/
namespace MoSql.Peg

theorem stripPrefix_le (cl : Bool) (s x r : Str) (h : stripPrefix cl s x = some r) : r.length ≤ x.length := by
  fun_induction stripPrefix cl s x with
  | case1 => cases h; exact Nat.le_refl _
  | case2 | case4 => cases h
  | case3 _ _ _ _ _ ih => exact Nat.le_succ_of_le (ih h)

theorem quotedBody_rest_le (q : Char) (x b r : Str) (h : quotedBody q x = some (b, r)) : r.length ≤ x.length := by
  fun_induction quotedBody q x generalizing b r with
  -- no closing quote
  | case1 | case3 => cases h
  -- the closing quote is the first character
  | case2 | case5 | case6 => cases h; simp
  -- a doubled quote, and the text closes later
  | case4 _ _ _ _ _ _ _ h0 ih => cases h; exact Nat.le_succ_of_le (Nat.le_succ_of_le (ih _ _ h0))
  -- any other character
  | case7 _ _ _ _ ih =>
    obtain ⟨⟨b0, r0⟩, h0, h1⟩ := Option.map_eq_some_iff.mp h
    cases h1; exact Nat.le_succ_of_le (ih _ _ h0)

/-- (the bound `n` is not needed: `quotedBody_rest_le`) -/
theorem quotedBody_le (q : Char) : ∀ (n : Nat) (x b r : Str), x.length ≤ n → quotedBody q x = some (b, r) → r.length ≤ x.length :=
  fun _ x b r _ => quotedBody_rest_le q x b r

theorem matchTerm_le (t : Term) (x s r : Str) : matchTerm t x = some (s, r) → r.length ≤ x.length := by
  fun_cases matchTerm t x with intro h
  -- a literal
  | case1 =>
    obtain ⟨r0, h0, h1⟩ := Option.map_eq_some_iff.mp h
    cases h1; exact stripPrefix_le _ _ _ _ h0
  -- a keyword at the end of the text, or in front of a character that is not a word character
  | case2 => cases h; exact Nat.zero_le _
  | case4 _ _ _ _ _ h0 => cases h; exact stripPrefix_le _ _ _ _ h0
  -- a word
  | case7 => cases h; exact Nat.le_succ_of_le (List.dropWhile_sublist _).length_le
  -- a quoted text
  | case10 =>
    obtain ⟨⟨b0, r0⟩, h0, h1⟩ := Option.map_eq_some_iff.mp h
    cases h1; exact Nat.le_succ_of_le (quotedBody_rest_le _ _ _ _ h0)
  -- no match
  | case3 | case5 | case6 | case8 | case9 | case11 => cases h

variable {E : Env}

theorem diag_sim (I : Str → Prop) (hskip : ∀ ws x, I x → I (E.skip ws x))
    (hterm : ∀ t x s r, I x → matchTerm t x = some (s, r) → I r) :
    Sim E (fun x x' => x = x' ∧ I x) (fun x x' => x = x' ∧ I x) (fun _ => true) (fun _ => true) where
  c_e _ _ h := h
  lt_iff := by rintro _ _ _ _ ⟨rfl, _⟩ ⟨rfl, _⟩; exact .rfl
  nil_iff := by rintro _ _ ⟨rfl, _⟩; rfl
  skip ws _ := by rintro x _ ⟨rfl, hx⟩; exact ⟨rfl, hskip ws x hx⟩
  term t _ := by rintro x _ ⟨rfl, hx⟩; exact .diag fun s r hm => ⟨rfl, hterm t x s r hx hm⟩

/-- **What the whitespace engines and the terminals hand on, a match hands on** (any grammar, any fuel). -/
theorem run_inv (I : Str → Prop) (hskip : ∀ ws x, I x → I (E.skip ws x))
    (hterm : ∀ t x s r, I x → matchTerm t x = some (s, r) → I r)
    (n : Nat) (g : G) (x : Str) (ts : List Tok) (r : Str) (hx : I x) (h : run E n g x = .ok ts r) : I r := by
  have all g : G.wf (fun _ => true) (fun _ => true) g = true := G.wf_of_all (fun _ => rfl) (fun _ => rfl) g
  have := run_sim (diag_sim I hskip hterm) (fun _ => all _) n g x x (all g) ⟨rfl, hx⟩
  rw [h] at this
  exact this.2.2

/-- **Every match ends inside the text it was given** (any grammar, any fuel). -/
theorem run_le (hskip : ∀ ws x, (E.skip ws x).length ≤ x.length) (n : Nat) (g : G) (x : Str) (ts : List Tok) (r : Str)
    (h : run E n g x = .ok ts r) : r.length ≤ x.length :=
  run_inv (·.length ≤ x.length) (fun ws y hy => Nat.le_trans (hskip ws y) hy)
    (fun t y s r hy hm => Nat.le_trans (matchTerm_le t y s r hm) hy) n g x ts r (Nat.le_refl _) h

/-- the three engines of the SQL grammar only move forward -/
theorem engines_le (ws : Nat) (x : Str) : (engines ws x).length ≤ x.length := by
  unfold engines
  split
  · exact Nat.le_refl _
  · exact (List.dropWhile_sublist (l := x) Skip.isWhite).length_le
  · exact Skip.skip_le x

end MoSql.Peg
