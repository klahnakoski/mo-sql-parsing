import MoSql.Peg
/-!
Simulation lemma for the recogniser engine: if two texts are related position by position (`Rc` on the places
where the engine tries to match, `Re` on the places where a match can end), the whitespace engines map ends to
places, and every terminal of the grammar behaves alike on related places, then the engine returns the same
tokens on both texts — for every grammar, every nesting, every fuel.
-/
namespace MoSql.Peg

/-- outcomes of a terminal on two related places -/
def TermRel (Re : Str → Str → Prop) : Option (Str × Str) → Option (Str × Str) → Prop
  | none, none => True
  | some (s, r), some (s', r') => s = s' ∧ Re r r'
  | _, _ => False

/-- outcomes of the engine on two related places -/
def ResRel (Re : Str → Str → Prop) : Res → Res → Prop
  | .fail, .fail => True
  | .diverge, .diverge => True
  | .ok ts r, .ok ts' r' => ts = ts' ∧ Re r r'
  | _, _ => False

structure Sim (E : Env) (Rc Re : Str → Str → Prop) (P : Term → Bool) (Q : Nat → Bool) : Prop where
  c_e : ∀ x x', Rc x x' → Re x x'      -- where a match is tried, one can also end (the empty match)
  -- the loops test progress by comparing lengths, and the end of the text by emptiness: both agree on related places
  lt_iff : ∀ x x' y y', Re x x' → Re y y' → (y.length < x.length ↔ y'.length < x'.length)
  nil_iff : ∀ x x', Re x x' → x.isEmpty = x'.isEmpty
  -- the whitespace engines lead from related ends to related places, and terminals answer alike there
  skip : ∀ ws, Q ws = true → ∀ x x', Re x x' → Rc (E.skip ws x) (E.skip ws x')
  term : ∀ t, P t = true → ∀ x x', Rc x x' → TermRel Re (matchTerm t x) (matchTerm t x')

theorem ite_rel {α β : Sort _} {R : α → β → Prop} {p q : Prop} [Decidable p] [Decidable q] (hpq : p ↔ q)
    {a b : α} {a' b' : β} (ha : R a a') (hb : R b b') : R (if p then a else b) (if q then a' else b') := by
  by_cases hp : p
  · rwa [if_pos hp, if_pos (hpq.mp hp)]
  · rwa [if_neg hp, if_neg (mt hpq.mpr hp)]

section
variable {E : Env} {Rc Re : Str → Str → Prop} {P : Term → Bool} {Q : Nat → Bool}

@[elab_as_elim]
theorem ResRel.elim {motive : Res → Res → Prop} {a b : Res} (h : ResRel Re a b) (fail : motive .fail .fail)
    (diverge : motive .diverge .diverge) (ok : ∀ ts r r', Re r r' → motive (.ok ts r) (.ok ts r')) : motive a b :=
  match a, b, h with
  | .fail, .fail, _ => fail
  | .diverge, .diverge, _ => diverge
  | .ok ts r, .ok _ r', ⟨rfl, hr⟩ => ok ts r r' hr

theorem TermRel.diag {o : Option (Str × Str)} (h : ∀ s r, o = some (s, r) → Re r r) : TermRel Re o o :=
  match o, h with
  | none, _ => trivial
  | some (s, r), h => ⟨rfl, h s r rfl⟩

/-- what the loops need from the recursive call -/
def RecOK (Rc Re : Str → Str → Prop) (P : Term → Bool) (Q : Nat → Bool) (rec : G → Str → Res) : Prop :=
  ∀ g x x', G.wf P Q g = true → Rc x x' → ResRel Re (rec g x) (rec g x')

variable (h : Sim E Rc Re P Q) {rec : G → Str → Res} (hrec : RecOK Rc Re P Q rec)
include h hrec

theorem seqLoop_sim {ws : Nat} (hws : Q ws = true) (gs : List G) {idx idx' fin fin' : Str} (acc : List Tok)
    (hwf : wfList P Q gs = true) (hi : Rc idx idx') (hf : Re fin fin') :
    ResRel Re (seqLoop rec (E.skip ws) gs idx fin acc) (seqLoop rec (E.skip ws) gs idx' fin' acc) := by
  induction gs generalizing idx idx' fin fin' acc with
  | nil => exact ⟨rfl, hf⟩
  | cons g gs ih =>
    simp only [wfList, Bool.and_eq_true] at hwf
    -- the place where `g` is tried
    have hi1 : Rc (if fin.length < idx.length then E.skip ws fin else idx)
                  (if fin'.length < idx'.length then E.skip ws fin' else idx') :=
      ite_rel (h.lt_iff _ _ _ _ (h.c_e _ _ hi) hf) (h.skip ws hws _ _ hf) hi
    simp only [seqLoop]
    refine (hrec g _ _ hwf.1 hi1).elim trivial trivial fun ts r r' hr => ?_
    refine ite_rel ?_ (ih acc hwf.2 hi1 hf) (ih (acc ++ ts) hwf.2 hi1 hr)
    rw [decide_eq_decide.mpr (h.lt_iff _ _ _ _ (h.c_e _ _ hi1) hr)]

omit h in
theorem altLoop_sim (gs : List G) {x x' : Str} (hwf : wfList P Q gs = true) (hx : Rc x x') :
    ResRel Re (altLoop rec gs x) (altLoop rec gs x') := by
  induction gs with
  | nil => trivial
  | cons g gs ih =>
    simp only [wfList, Bool.and_eq_true] at hwf
    simp only [altLoop]
    exact (hrec g x x' hwf.1 hx).elim (ih hwf.2) trivial fun _ _ _ hr => ⟨rfl, hr⟩

/-- `b`, `b'`: the best match so far on either side; they are related when the loop, stopped now, would answer alike -/
theorem longestLoop_sim (gs : List G) {x x' : Str} {b b' : Option (List Tok × Str)} (hwf : wfList P Q gs = true)
    (hx : Rc x x') (hb : ResRel Re (longestLoop rec [] x b) (longestLoop rec [] x' b')) :
    ResRel Re (longestLoop rec gs x b) (longestLoop rec gs x' b') := by
  induction gs generalizing b b' with
  | nil => exact hb
  | cons g gs ih =>
    simp only [wfList, Bool.and_eq_true] at hwf
    simp only [longestLoop]
    refine (hrec g x x' hwf.1 hx).elim (ih hwf.2 hb) trivial fun ts r r' hr => ?_
    have best {ts r r'} (hr : Re r r') :
        ResRel Re (longestLoop rec [] x (some (ts, r))) (longestLoop rec [] x' (some (ts, r'))) := ⟨rfl, hr⟩
    match b, b', hb with
    | none, none, _ => exact ih hwf.2 (best hr)
    | some (bt, br), some (_, br'), ⟨rfl, hbr⟩ =>
      exact ite_rel (h.lt_iff _ _ _ _ hbr hr) (ih hwf.2 (best hr)) (ih hwf.2 (best hbr))

theorem manyLoop_sim {ws : Nat} (hws : Q ws = true) {g : G} (hg : G.wf P Q g = true) (mn mx k : Nat) {fin fin' : Str}
    (count : Nat) (acc : List Tok) (hf : Re fin fin') :
    ResRel Re (manyLoop rec (E.skip ws) g mn mx k fin count acc) (manyLoop rec (E.skip ws) g mn mx k fin' count acc) := by
  induction k generalizing fin fin' count acc with
  | zero => trivial
  | succ k ih =>
    have stop : ResRel Re (if count < mn then .fail else .ok acc fin) (if count < mn then .fail else .ok acc fin') :=
      ite_rel .rfl trivial ⟨rfl, hf⟩
    have hi := h.skip ws hws _ _ hf
    have hie := h.c_e _ _ hi
    simp only [manyLoop]
    refine ite_rel (by rw [h.nil_iff _ _ hf]) stop ?_
    refine (hrec g _ _ hg hi).elim stop trivial fun ts r r' hr => ?_
    refine ite_rel (h.lt_iff _ _ _ _ hie hr) ?_ (ite_rel (by rw [h.nil_iff _ _ hie]) ?_ trivial)
    · exact ite_rel .rfl (ite_rel .rfl trivial ⟨rfl, hr⟩) (ih (count + 1) (acc ++ ts) hr)
    · exact ite_rel .rfl trivial ⟨rfl, ite_rel .rfl hie hf⟩

omit hrec in
/-- **The engine returns the same tokens on related texts** — any grammar over the given terminals and whitespace
engines, any nesting, any fuel. -/
theorem run_sim (hrules : ∀ i, G.wf P Q (E.rule i) = true) (n : Nat) : RecOK Rc Re P Q (run E n) := by
  induction n with
  | zero => exact fun _ _ _ _ _ => trivial
  | succ n ih =>
    intro g x x' hwf hx
    have hxe := h.c_e _ _ hx
    cases g with simp only [run]
    | term t =>
      match matchTerm t x, matchTerm t x', h.term t hwf x x' hx with
      | none, none, _ => trivial
      | some (s, r), some (_, r'), ⟨rfl, hr⟩ => exact ⟨rfl, hr⟩
    | empty => exact ⟨rfl, hxe⟩
    | seq ws gs =>
      simp only [G.wf, Bool.and_eq_true] at hwf
      exact seqLoop_sim h ih hwf.1 gs [] hwf.2 hx hxe
    | alt gs => exact altLoop_sim ih gs hwf hx
    | longest gs => exact longestLoop_sim h ih gs hwf hx trivial
    | many ws g mn mx =>
      simp only [G.wf, Bool.and_eq_true] at hwf
      exact manyLoop_sim h ih hwf.1 hwf.2 mn mx n 0 [] hxe
    | opt g => exact (ih g x x' hwf hx).elim ⟨rfl, hxe⟩ trivial fun _ _ _ hr => ⟨rfl, hr⟩
    | group g => exact (ih g x x' hwf hx).elim trivial trivial fun _ _ _ hr => ⟨rfl, hr⟩
    | suppress g => exact (ih g x x' hwf hx).elim trivial trivial fun _ _ _ hr => ⟨rfl, hr⟩
    | ref i => exact ih (E.rule i) x x' (hrules i) hx
    | notAhead g => exact (ih g x x' hwf hx).elim ⟨rfl, hxe⟩ trivial fun _ _ _ _ => trivial
    | ahead g => exact (ih g x x' hwf hx).elim trivial trivial fun _ _ _ _ => ⟨rfl, hxe⟩

omit hrec in
/-- the same for a whole parse (`Parser._parse_once`, with or without `parse_all`) -/
theorem parseTop_sim (hrules : ∀ i, G.wf P Q (E.rule i) = true) (fuel : Nat) {ws : Nat} (hws : Q ws = true)
    {g : G} (hg : G.wf P Q g = true) (parseAll : Bool) {x x' : Str} (hx : Re x x') :
    ResRel Re (parseTop E fuel ws g parseAll x) (parseTop E fuel ws g parseAll x') := by
  simp only [parseTop]
  refine (run_sim h hrules fuel g _ _ hg (h.skip ws hws _ _ hx)).elim trivial trivial fun ts r r' hr => ?_
  refine ite_rel .rfl (ite_rel ?_ ⟨rfl, hr⟩ trivial) ⟨rfl, hr⟩
  rw [h.nil_iff _ _ (h.c_e _ _ (h.skip ws hws _ _ hr))]

end

mutual
theorem G.wf_of_all {P : Term → Bool} {Q : Nat → Bool} (hP : ∀ t, P t = true) (hQ : ∀ ws, Q ws = true) :
    ∀ g, G.wf P Q g = true
  | .term t => hP t
  | .empty | .ref _ => rfl
  | .seq ws gs => by rw [G.wf, hQ, wfList_of_all hP hQ gs]; rfl
  | .alt gs | .longest gs => wfList_of_all hP hQ gs
  | .many ws g _ _ => by rw [G.wf, hQ, G.wf_of_all hP hQ g]; rfl
  | .opt g | .group g | .suppress g | .notAhead g | .ahead g => G.wf_of_all hP hQ g
theorem wfList_of_all {P : Term → Bool} {Q : Nat → Bool} (hP : ∀ t, P t = true) (hQ : ∀ ws, Q ws = true) :
    ∀ gs, wfList P Q gs = true
  | [] => rfl
  | g :: gs => by rw [wfList, G.wf_of_all hP hQ g, wfList_of_all hP hQ gs]; rfl
end

end MoSql.Peg
