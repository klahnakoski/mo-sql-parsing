import MoSql.Lex
import MoSql.OpJson
/-!
A quoted token is the text with its quote character doubled (`doubleQuotes`); `matchBody`, `undouble` and `replacePairs`
read doubled text and are described by what they do on a doubled quote and on any other character.  A decoder hands
Python the text with some characters escaped by a backslash (`escape`); evaluating that gives the text back
(`pyEvalG_escape`).
-/
namespace MoSql.Lex

theorem doubleQuotes_cons_self (quote : Char) (s : List Char) :
    doubleQuotes quote (quote :: s) = quote :: quote :: doubleQuotes quote s := by
  simp [doubleQuotes]

theorem doubleQuotes_cons_ne {quote c : Char} (h : c ≠ quote) (s : List Char) :
    doubleQuotes quote (c :: s) = c :: doubleQuotes quote s := by
  simp [doubleQuotes, h]

theorem matchBody_pair {quote : Char} {cs b r : List Char} (h : matchBody quote cs = some (b, r)) :
    matchBody quote (quote :: quote :: cs) = some (quote :: quote :: b, r) := by
  simp [matchBody, h]

theorem matchBody_cons_ne {quote c : Char} {cs b r : List Char} (hc : c ≠ quote)
    (h : matchBody quote cs = some (b, r)) : matchBody quote (c :: cs) = some (c :: b, r) := by
  unfold matchBody
  simp [hc, h]

theorem matchBody_close {quote : Char} {rest : List Char} (hr : ∀ c cs, rest = c :: cs → (c == quote) = false) :
    matchBody quote (quote :: rest) = some ([], rest) := by
  unfold matchBody
  cases rest with
  | nil => simp
  | cons c cs => simp [hr c cs rfl]

theorem matchBody_doubled (quote : Char) (rest : List Char) (hr : ∀ c cs, rest = c :: cs → (c == quote) = false)
    (s : List Char) : matchBody quote (doubleQuotes quote s ++ quote :: rest) = some (doubleQuotes quote s, rest) := by
  induction s with
  | nil => exact matchBody_close hr
  | cons c s ih =>
    by_cases h : c = quote
    · subst h
      rw [doubleQuotes_cons_self]
      exact matchBody_pair ih
    · rw [doubleQuotes_cons_ne h]
      exact matchBody_cons_ne h ih

theorem matchQuoted_quoteWith_append (open_ close : Char) (s rest : List Char)
    (hr : ∀ c cs, rest = c :: cs → (c == close) = false) :
    matchQuoted open_ close (quoteWith open_ close s ++ rest) = some (doubleQuotes close s, rest) := by
  simp only [quoteWith, List.cons_append, List.append_assoc, matchQuoted, beq_self_eq_true, if_true]
  exact matchBody_doubled close rest hr s

theorem matchQuoted_quoteWith (open_ close : Char) (s : List Char) :
    matchQuoted open_ close (quoteWith open_ close s) = some (doubleQuotes close s, []) := by
  have := matchQuoted_quoteWith_append open_ close s [] nofun
  rwa [List.append_nil] at this

theorem matchSQ_encodeSQ (s : List Char) : matchSQ (encodeSQ s) = some (doubleQuotes q s, []) :=
  matchQuoted_quoteWith q q s

theorem matchDQ_encodeDQ (s : List Char) : matchDQ (encodeDQ s) = some (doubleQuotes dq s, []) :=
  matchQuoted_quoteWith dq dq s

theorem matchQuoted_none {open_ c : Char} (h : (c == open_) = false) (close : Char) (cs : List Char) :
    matchQuoted open_ close (c :: cs) = none := by
  simp [matchQuoted, h]

theorem undouble_pair (quote : Char) (cs : List Char) :
    undouble quote (quote :: quote :: cs) = quote :: undouble quote cs := by
  simp [undouble]

theorem undouble_cons_ne {quote c : Char} (h : c ≠ quote) : ∀ cs : List Char,
    undouble quote (c :: cs) = c :: undouble quote cs
  | [] => rfl
  | _ :: _ => by simp [undouble, h]

theorem undouble_doubled (quote : Char) (s : List Char) : undouble quote (doubleQuotes quote s) = s := by
  induction s with
  | nil => rfl
  | cons c s ih =>
    by_cases h : c = quote
    · subst h
      rw [doubleQuotes_cons_self, undouble_pair, ih]
    · rw [doubleQuotes_cons_ne h, undouble_cons_ne h, ih]

theorem replacePairs_pair (quote a b : Char) (cs : List Char) :
    replacePairs quote a b (quote :: quote :: cs) = a :: b :: replacePairs quote a b cs := by
  simp [replacePairs]

theorem replacePairs_cons_ne {quote c : Char} (h : c ≠ quote) (a b : Char) : ∀ cs : List Char,
    replacePairs quote a b (c :: cs) = c :: replacePairs quote a b cs
  | [] => rfl
  | _ :: _ => by simp [replacePairs, h]

def escape (esc : Char → Bool) : List Char → List Char
  | [] => []
  | c :: cs => if esc c then bs :: c :: escape esc cs else c :: escape esc cs

theorem escapeDq_eq (s : List Char) : escapeDq s = escape (· == dq) s := by
  induction s with
  | nil => rfl
  | cons c s ih => by_cases h : c = dq <;> simp [escapeDq, escape, h, ih]

theorem replacePairs_doubled (quote : Char) (s : List Char) :
    replacePairs quote bs quote (doubleQuotes quote s) = escape (· == quote) s := by
  induction s with
  | nil => rfl
  | cons c s ih =>
    by_cases h : c = quote
    · subst h
      rw [doubleQuotes_cons_self, replacePairs_pair, ih]
      simp [escape]
    · rw [doubleQuotes_cons_ne h, replacePairs_cons_ne h, ih]
      simp [escape, h]

/-- escaping in two passes (`single_literal`: first the quotes, then the double quotes) -/
theorem escape_escape {p r : Char → Bool} (hbs : p bs = false) (hd : ∀ c, r c = true → p c = false) (s : List Char) :
    escape p (escape r s) = escape (fun c => p c || r c) s := by
  induction s with
  | nil => rfl
  | cons c s ih =>
    cases hr : r c
    · cases hp : p c <;> simp [escape, hr, hp, ih]
    · simp [escape, hr, hbs, hd c hr, ih]

/-- no backslash, CR or NUL: the characters on which the implementation's decoder of literals is exact -/
def plainChar (c : Char) : Bool := !(c == bs) && !(c == '\r') && !(c == '\x00')

/-- what may appear in a quoted identifier for the decoder to be exact -/
def plainIdChar (c : Char) : Bool := plainChar c && !(c == '\n')

theorem pyEvalG_escaped_quote (triple : Bool) {e : Char} (he : (e == dq || e == q) = true) (fuel : Nat)
    (r : List Char) : pyEvalG triple (fuel + 1) (bs :: e :: r) = (pyEvalG triple fuel r).map (e :: ·) := by
  simp only [Bool.or_eq_true, beq_iff_eq] at he
  rcases he with rfl | rfl <;> cases triple <;> rfl

theorem pyEvalG_plain {triple : Bool} {c : Char} (hc : plainChar c = true) (hdq : c ≠ dq)
    (hnl : triple = false → c ≠ '\n') (fuel : Nat) (cs : List Char) :
    pyEvalG triple (fuel + 1) (c :: cs) = (pyEvalG triple fuel cs).map (c :: ·) := by
  simp only [plainChar, Bool.and_eq_true, Bool.not_eq_true', beq_eq_false_iff_ne] at hc
  -- `c` fails the six tests in front of the last branch of `pyEvalG`; `show` unfolds one step by definition
  -- (`simp [pyEvalG]` is slow on a body of this size)
  show (if _ then _ else if _ then _ else if _ then _ else if _ then _ else if _ then _ else if _ then _ else _) = _
  rw [if_neg, if_neg (by simpa [hc] using hnl), if_neg, if_neg, if_neg, if_neg] <;> simp [hc, hdq]

/-- Python reads the escaped text back as `s`, for every `esc` between {`"`} and {`"`, `'`} (the escape sets of the
decoders).  The fuel is stated on the source text, as the decoders give it (its length + 1). -/
theorem pyEvalG_escape (triple : Bool) {esc : Char → Bool} (hesc : ∀ c, esc c = true → (c == dq || c == q) = true)
    (hdq : esc dq = true) (s : List Char) (fuel : Nat) (hf : (escape esc s).length < fuel)
    (hp : ∀ c ∈ s, plainChar c = true ∧ (triple = false → c ≠ '\n')) : pyEvalG triple fuel (escape esc s) = some s := by
  induction s generalizing fuel with
  | nil => cases fuel <;> rfl
  | cons c s ih =>
    have ⟨hc, hnl⟩ := hp c List.mem_cons_self
    cases fuel with
    | zero => nomatch hf
    | succ fuel =>
      have ih := fun hf => ih fuel hf fun x hx => hp x (List.mem_cons_of_mem _ hx)
      cases he : esc c
      · simp only [escape, he, Bool.false_eq_true, if_false] at hf ⊢
        rw [pyEvalG_plain hc (fun e => by simp [e, hdq] at he) hnl, ih (Nat.lt_of_succ_lt_succ hf)]
        rfl
      · simp only [escape, he, if_true] at hf ⊢
        rw [pyEvalG_escaped_quote triple (hesc c he), ih (Nat.lt_of_succ_lt (Nat.lt_of_succ_lt_succ hf))]
        rfl

theorem pyEval_escape {esc : Char → Bool} (hesc : ∀ c, esc c = true → (c == dq || c == q) = true) (hdq : esc dq = true)
    {s : List Char} (hp : ∀ c ∈ s, plainChar c = true) :
    pyEval ((escape esc s).length + 1) (escape esc s) = some s :=
  pyEvalG_escape true hesc hdq s _ (Nat.lt_succ_self _) fun c hc => ⟨hp c hc, nofun⟩

theorem pyEval1_escape {s : List Char} (hp : ∀ c ∈ s, plainIdChar c = true) :
    pyEval1 ((escape (· == dq) s).length + 1) (escape (· == dq) s) = some s :=
  pyEvalG_escape false (fun _ h => by rw [h]; rfl) rfl s _ (Nat.lt_succ_self _)
    fun c hc => by simpa [plainIdChar] using hp c hc

theorem takeWhile_all {α : Type} (p : α → Bool) (xs rest : List α) (hx : ∀ x ∈ xs, p x = true)
    (hr : ∀ r rs, rest = r :: rs → p r = false) :
    (xs ++ rest).takeWhile p = xs ∧ (xs ++ rest).dropWhile p = rest := by
  rw [List.takeWhile_append_of_pos hx, List.dropWhile_append_of_pos hx]
  cases rest with
  | nil => simp
  | cons r rs => simp [hr r rs rfl]

theorem revDigits_lt_ten (fuel n : Nat) : ∀ d ∈ revDigits fuel n, d < 10 := by
  induction fuel generalizing n with
  | zero => nofun
  | succ fuel ih =>
    intro d h
    by_cases hn : n < 10
    · rw [revDigits, if_pos hn, List.mem_singleton] at h
      exact h ▸ hn
    · rw [revDigits, if_neg hn] at h
      rcases List.mem_cons.mp h with rfl | h
      · exact Nat.mod_lt n (by decide)
      · exact ih _ d h

theorem digitChar_val : ∀ d, d < 10 → (digitChar d).toNat - 48 = d := by decide +kernel

theorem isDigit_digitChar : ∀ d, d < 10 → isDigit (digitChar d) = true := by decide +kernel

/-- Horner's rule over the digits of `n`, least significant digit outermost, gives `n` -/
theorem foldr_revDigits (fuel n : Nat) (h : n < fuel) :
    (revDigits fuel n).foldr (fun d a => a * 10 + ((digitChar d).toNat - 48)) 0 = n := by
  induction fuel generalizing n with
  | zero => nomatch h
  | succ fuel ih =>
    by_cases hn : n < 10
    · rw [revDigits, if_pos hn, List.foldr_cons, List.foldr_nil, digitChar_val n hn, Nat.zero_mul, Nat.zero_add]
    · have hpos : 0 < n := Nat.lt_of_lt_of_le (by decide) (Nat.le_of_not_lt hn)
      have hlt : n / 10 < fuel := Nat.lt_of_lt_of_le (Nat.div_lt_self hpos (by decide)) (Nat.le_of_lt_succ h)
      rw [revDigits, if_neg hn, List.foldr_cons, ih (n / 10) hlt, digitChar_val _ (Nat.mod_lt n (by decide))]
      exact Nat.div_add_mod' n 10

theorem parseNat_digits (n : Nat) : parseNat (digits n) = n := by
  rw [parseNat, digits, List.foldl_map, List.foldl_reverse]
  exact foldr_revDigits (n + 1) n (Nat.lt_succ_self n)

theorem digits_all_digit (n : Nat) : ∀ c ∈ digits n, isDigit c = true := by
  intro c hc
  simp only [digits, List.mem_map, List.mem_reverse] at hc
  obtain ⟨d, hd, rfl⟩ := hc
  exact isDigit_digitChar d (revDigits_lt_ten _ _ d hd)

theorem parseIntText_digits (ds : List Char) (hd : ∀ c ∈ ds, isDigit c = true) : parseIntText ds = parseNat ds := by
  have h := takeWhile_all isDigit ds [] hd nofun
  rw [List.append_nil] at h
  simp only [parseIntText, h.1, h.2]

theorem parseIntText_exp (ds : List Char) (hd : ∀ c ∈ ds, isDigit c = true) (e : Char) (he : isDigit e = false)
    (t : List Char) : parseIntText (ds ++ e :: t) = parseNat ds * 10 ^ parseNat (stripPlus t) := by
  have h := takeWhile_all isDigit ds (e :: t) hd (by simp [he])
  simp only [parseIntText, h.1, h.2]

theorem stripPlus_of_digits {ks : List Char} (h : ∀ c ∈ ks, isDigit c = true) : stripPlus ks = ks := by
  unfold stripPlus
  split
  · cases h '+' List.mem_cons_self
  · rfl

theorem matchWord_none {first : List (Nat × Nat)} {c : Char} (h : inRanges first c = false)
    (rest : List (Nat × Nat)) (cs : List Char) : matchWord first rest (c :: cs) = none := by
  simp [matchWord, h]

theorem matchWord_run {first rest : List (Nat × Nat)} {c : Char} {cs tl : List Char} (hc : inRanges first c = true)
    (hcs : ∀ x ∈ cs, inRanges rest x = true) (ht : ∀ r rs, tl = r :: rs → inRanges rest r = false) :
    matchWord first rest (c :: cs ++ tl) = some (c :: cs, tl) := by
  have h := takeWhile_all (inRanges rest) cs tl hcs ht
  simp [matchWord, hc, h.1, h.2]

theorem inRanges_point (a : Nat) (c : Char) : inRanges [(a, a)] c = (c.toNat == a) := by
  rw [Bool.eq_iff_iff]
  simp [inRanges, Nat.le_antisymm_iff, and_comm]

/-- `formatting.VALID`'s classes as range lists, so that inclusion in a generated table is a `rangesSubset` check -/
theorem isAsciiAlphaU_eq (c : Char) : isAsciiAlphaU c = inRanges [(97, 122), (65, 90), (95, 95)] c := by
  rw [isAsciiAlphaU, ← inRanges_point, Bool.or_assoc]
  rfl

theorem isAsciiWord_eq (c : Char) : isAsciiWord c = inRanges [(48, 57), (97, 122), (65, 90), (95, 95)] c := by
  rw [isAsciiWord, isAsciiAlphaU_eq, Bool.or_comm]
  rfl

end MoSql.Lex

/-- `to_json_operator` folds a sign into whatever `is_number` accepts (C06: the sign of a numeric literal) -/
theorem MoSql.OpJson.mkPrefix_sign {x : MoSql.Raw} (hx : isNumber x = true) :
    mkPrefix "neg" x = negate x ∧ mkPrefix "pos" x = x := by
  simp [mkPrefix, hx]
