import MoSql.Gen.FmtTable
/-!
The table obligations of C04 on the generated tables, decided together: each looks the parser's row of every renderer
up by its spelling (`Gen.opInfo`, a search that compares strings), which is most of the work, and the kernel shares
what it has evaluated only within one declaration.  When a regenerated table breaks one of them the message names the
whole conjunction: decide each conjunct alone to see which.
-/
namespace MoSql.Fmt

theorem tablesOK_gen :
    soundTable Gen.knownFmtTriples Gen.fmtOps = true ∧ wfTable Gen.levels Gen.fmtOps = true ∧
      Fmt2.soundTable [] Gen.allOps = true ∧ Fmt2.wfTable Gen.levels Gen.allOps = true := by
  decide +kernel

end MoSql.Fmt
