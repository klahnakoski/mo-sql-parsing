import MoSql.Infix
/-
Written expressions over operator levels: the specification side of `make_tree`.
`W` is a parenthesis-free operator tree whose leaves are already-built values
(atoms, or parenthesised sub-expressions that were parsed recursively).
`flat` is what the PEG hands to `make_tree`; `val` is the tree the property demands
(each operator applied to exactly its written operands).
`Compat` says the tree is the one operator precedence prescribes for its own flat text:
 * left operand binds at least as tight (left associativity),
 * every other operand binds strictly tighter,
 * a prefix / suffix operator applies to something that binds at least as tight.
Levels are indices into the level table: a smaller index binds tighter.
-/
namespace MoSql.Infix

inductive W (V : Type) where
  | leaf (v : V)
  | pre (k : Nat) (t : Tok V) (x : W V)
  | suf (k : Nat) (x : W V) (t : Tok V)
  | bin (k : Nat) (l : W V) (t : Tok V) (r : W V)
  | tern (k : Nat) (a : W V) (t0 : Tok V) (b : W V) (t1 : Tok V) (c : W V)

variable {V : Type}

def W.flat : W V → List (Item V)
  | .leaf v => [.val v]
  | .pre _ t x => .op t :: x.flat
  | .suf _ x t => x.flat ++ [.op t]
  | .bin _ l t r => l.flat ++ .op t :: r.flat
  | .tern _ a t0 b t1 c => a.flat ++ .op t0 :: (b.flat ++ .op t1 :: c.flat)

def W.val (B : Builders V) (lv : List Level) : W V → V
  | .leaf v => v
  | .pre k t x => B.mkPre (lv.getD k default) t (x.val B lv)
  | .suf k x t => B.mkSuf (lv.getD k default) (x.val B lv) t
  | .bin k l t r => B.mkBin (lv.getD k default) (l.val B lv) t (r.val B lv)
  | .tern k a t0 b t1 c =>
    B.mkTern (lv.getD k default) (a.val B lv) t0 (b.val B lv) t1 (c.val B lv)

/-- number of operator nodes -/
def W.size : W V → Nat
  | .leaf _ => 0
  | .pre _ _ x => x.size + 1
  | .suf _ x _ => x.size + 1
  | .bin _ l _ r => l.size + r.size + 1
  | .tern _ a _ b _ c => a.size + b.size + c.size + 1

/-- level of the root operator (`none` for a leaf) -/
def W.top : W V → Option Nat
  | .leaf _ => none
  | .pre k _ _ => some k
  | .suf k _ _ => some k
  | .bin k _ _ _ => some k
  | .tern k _ _ _ _ _ => some k

/-- root binds at least as tight as level `k` -/
def W.le (w : W V) (k : Nat) : Prop := ∀ j, w.top = some j → j ≤ k
/-- root binds strictly tighter than level `k` -/
def W.lt (w : W V) (k : Nat) : Prop := ∀ j, w.top = some j → j < k

/-- level `k` of the table is of kind `kd` and is triggered by tokens with identity `id0` -/
def NodeOk (lv : List Level) (k : Nat) (kd : Kind) (id0 : Nat) : Prop :=
  ∃ L, lv[k]? = some L ∧ L.kind = kd ∧ L.id0 = id0

/-- every node uses the tokens of its level -/
def W.WF (lv : List Level) : W V → Prop
  | .leaf _ => True
  | .pre k t x => NodeOk lv k Kind.pre t.id ∧ x.WF lv
  | .suf k x t => NodeOk lv k Kind.suf t.id ∧ x.WF lv
  | .bin k l t r => NodeOk lv k Kind.bin t.id ∧ l.WF lv ∧ r.WF lv
  | .tern k a t0 b t1 c =>
    (∃ L, lv[k]? = some L ∧ L.kind = Kind.tern ∧ L.id0 = t0.id ∧ L.id1 = t1.id) ∧
      a.WF lv ∧ b.WF lv ∧ c.WF lv

/-- the levels of the operator nodes of `w` -/
def W.levels : W V → List Nat
  | .leaf _ => []
  | .pre j _ x => j :: x.levels
  | .suf j x _ => j :: x.levels
  | .bin j l _ r => j :: (l.levels ++ r.levels)
  | .tern j a _ b _ c => j :: (a.levels ++ (b.levels ++ c.levels))

/-- structural facts about the level table that the reducer relies on:
operator identities are not shared between levels, and the second token of a ternary
level (BETWEEN … AND) is shared only with a LOOSER level. -/
def LevelsOK (lv : List Level) : Prop :=
  (∀ (i j : Nat) (Li Lj : Level), lv[i]? = some Li → lv[j]? = some Lj → Li.id0 = Lj.id0 → i = j) ∧
  (∀ (t j : Nat) (Lt Lj : Level), lv[t]? = some Lt → Lt.kind = Kind.tern → lv[j]? = some Lj → j ≤ t → Lj.id0 ≠ Lt.id1)

def W.Compat : W V → Prop
  | .leaf _ => True
  | .pre k _ x => x.le k ∧ x.Compat
  | .suf k x _ => x.le k ∧ x.Compat
  | .bin k l _ r => l.le k ∧ r.lt k ∧ l.Compat ∧ r.Compat
  | .tern k a _ b _ c => a.le k ∧ b.lt k ∧ c.lt k ∧ a.Compat ∧ b.Compat ∧ c.Compat

/-! ### decidable versions (used by the driver and by `decide`) -/

def W.leB (w : W V) (k : Nat) : Bool :=
  match w.top with
  | none => true
  | some j => decide (j ≤ k)

def W.ltB (w : W V) (k : Nat) : Bool :=
  match w.top with
  | none => true
  | some j => decide (j < k)

def W.compatB : W V → Bool
  | .leaf _ => true
  | .pre k _ x => x.leB k && x.compatB
  | .suf k x _ => x.leB k && x.compatB
  | .bin k l _ r => l.leB k && r.ltB k && l.compatB && r.compatB
  | .tern k a _ b _ c => a.leB k && b.ltB k && c.ltB k && a.compatB && b.compatB && c.compatB

def nodeOkB (lv : List Level) (k : Nat) (kd : Kind) (id0 : Nat) : Bool :=
  match lv[k]? with
  | some L => L.kind == kd && L.id0 == id0
  | none => false

def W.wfB (lv : List Level) : W V → Bool
  | .leaf _ => true
  | .pre k t x => nodeOkB lv k .pre t.id && x.wfB lv
  | .suf k x t => nodeOkB lv k .suf t.id && x.wfB lv
  | .bin k l t r => nodeOkB lv k .bin t.id && l.wfB lv && r.wfB lv
  | .tern k a t0 b t1 c =>
    (match lv[k]? with
     | some L => L.kind == Kind.tern && L.id0 == t0.id && L.id1 == t1.id
     | none => false) && a.wfB lv && b.wfB lv && c.wfB lv

theorem W.leB_iff {w : W V} {k : Nat} : w.leB k = true ↔ w.le k := by
  cases h : w.top <;> simp [W.leB, W.le, h]

theorem W.ltB_iff {w : W V} {k : Nat} : w.ltB k = true ↔ w.lt k := by
  cases h : w.top <;> simp [W.ltB, W.lt, h]

theorem W.compatB_iff {w : W V} : w.compatB = true ↔ w.Compat := by
  induction w <;> simp [W.compatB, W.Compat, W.leB_iff, W.ltB_iff, and_assoc, *]

theorem nodeOkB_iff {lv : List Level} {k : Nat} {kd : Kind} {id0 : Nat} :
    nodeOkB lv k kd id0 = true ↔ NodeOk lv k kd id0 := by
  cases h : lv[k]? <;> simp [nodeOkB, NodeOk, h]

theorem W.wfB_iff {lv : List Level} {w : W V} : w.wfB lv = true ↔ w.WF lv := by
  induction w with
  | tern k a t0 b t1 c iha ihb ihc => cases h : lv[k]? <;> simp [W.wfB, W.WF, and_assoc, *]
  | _ => simp [W.wfB, W.WF, nodeOkB_iff, and_assoc, *]

/-- Boolean form of `LevelsOK`, decidable on the generated table -/
def levelsOKB (lv : List Level) : Bool :=
  lv.zipIdx.all fun (Li, i) => lv.zipIdx.all fun (Lj, j) =>
    (Li.id0 != Lj.id0 || i == j) && (!(Li.kind == Kind.tern && j ≤ i) || Lj.id0 != Li.id1)

end MoSql.Infix
