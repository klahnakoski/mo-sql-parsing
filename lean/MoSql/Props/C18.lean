import MoSql.Gen.Graph
import MoSql.Gen.Lexemes
import MoSql.Ref
import MoSql.Lemmas.DialectProps
import MoSql.Lemmas.LexProps
/-!
C18 — dialect entry points differ only in the documented quoting rules.
Model: `MoSql.Dialect` (the identifier alternatives of the four parsers as first-match choices over
the token matchers).  The rest of the grammar is compared structurally (the graphs of the four
dialects differ only in the listed nodes) and behaviourally (oracle) — the recogniser is not modelled.
-/
namespace MoSql.Props.C18
open MoSql MoSql.Lex MoSql.Dialect

/-- the character tables of the current source; `sqlserver_local_ident` = Word("@" + FIRST, IDENT) has
the same first-character set as `simple_ident` (obligation `local_ident_same_chars`) -/
def tables : Tables := { first := Gen.firstIdentRanges, rest := Gen.identRanges, localFirst := Gen.firstIdentRanges }

/-- Tie A: `@` is already a first identifier character, so `"@" + FIRST_IDENT_CHAR` adds nothing: the two
word tokens compile to the same regular expression -/
theorem local_ident_same_chars :
    (inRanges Gen.firstIdentRanges '@'
      && ((Gen.lexPatterns.find? (·.1 == "sqlserver_local_ident")).map (·.2)
          == (Gen.lexPatterns.find? (·.1 == "simple_ident")).map (·.2))) = true := by decide +kernel

/-- Tie A: every first character of a name is a name character, and none of the quote characters is -/
theorem char_tables_ok :
    (rangesSubset Gen.firstIdentRanges Gen.identRanges
      && !inRanges Gen.firstIdentRanges '"' && !inRanges Gen.firstIdentRanges '`'
      && !inRanges Gen.firstIdentRanges '[') = true := by
  rw [charTables_gen.1, charTables_gen.2.1, charTables_gen.2.2.1, charTables_gen.2.2.2]
  rfl

/-- **On dialect-neutral text all four dialects read the same identifier lexeme** — any text that does
not start with a quote character and has no `-` directly after a name character (any length): every
dialect's `atomic_ident` consumes exactly what the plain word token consumes. -/
theorem neutral_same_lexeme (d : D) (c : Char) (cs : List Char)
    (h1 : (c == dq) = false) (h2 : (c == bt) = false) (h3 : (c == '[') = false)
    (hn : noDashAfterName tables.rest (c :: cs) = true) :
    atomicIdent tables d (c :: cs) = matchWord tables.first tables.rest (c :: cs) :=
  atomicIdent_neutral tables charTables_gen.1 (fun _ => rfl) d c cs h1 h2 h3 hn

/-- **backticks quote identifiers everywhere, for every content** -/
theorem backtick_everywhere (d : D) (s : List Char) :
    atomicIdent tables d (quoteWith bt bt s) = some (doubleQuotes bt s, []) := by
  have hb := matchQuoted_quoteWith bt bt s
  have hq : matchQuoted dq dq (quoteWith bt bt s) = none := matchQuoted_none rfl _ _
  cases d <;> simp [atomicIdent, firstMatch_cons, alt, hb, hq]

/-- **`[x]` is one identifier lexeme for SQL Server (and MySQL); for the common and BigQuery parsers it is
not an identifier at all** (it is left to the array constructor / index rules) -/
theorem square_bracket_rule (s : List Char) :
    atomicIdent tables .sqlserver (quoteWith '[' rb s) = some (doubleQuotes rb s, [])
    ∧ atomicIdent tables .common (quoteWith '[' rb s) = none
    ∧ atomicIdent tables .bigquery (quoteWith '[' rb s) = none := by
  have hs := matchQuoted_quoteWith '[' rb s
  have hq : matchQuoted dq dq (quoteWith '[' rb s) = none := matchQuoted_none rfl _ _
  have hb : matchQuoted bt bt (quoteWith '[' rb s) = none := matchQuoted_none rfl _ _
  have hw : matchWord tables.first tables.rest (quoteWith '[' rb s) = none := matchWord_none charTables_gen.2.2.2 _ _
  have hd : matchDashWord tables.first tables.rest (quoteWith '[' rb s) = none :=
    matchDashWord_none charTables_gen.2.2.2 _ _
  simp [atomicIdent, firstMatch_cons, firstMatch_nil, alt, hs, hq, hb, hw, hd]

/-- **double-quoted text is an identifier lexeme for the common and SQL Server parsers, and never one for
MySQL** (whose grammar offers the double-quoted string literal instead) -/
theorem double_quote_rule (s : List Char) :
    atomicIdent tables .common (quoteWith dq dq s) = some (doubleQuotes dq s, [])
    ∧ atomicIdent tables .sqlserver (quoteWith dq dq s) = some (doubleQuotes dq s, [])
    ∧ atomicIdent tables .mysql (quoteWith dq dq s) = none := by
  have hs := matchQuoted_quoteWith dq dq s
  have hb : matchQuoted bt bt (quoteWith dq dq s) = none := matchQuoted_none rfl _ _
  have hq : matchQuoted '[' rb (quoteWith dq dq s) = none := matchQuoted_none rfl _ _
  have hd : matchDashWord tables.first tables.rest (quoteWith dq dq s) = none := matchDashWord_none charTables_gen.2.1 _ _
  simp [atomicIdent, firstMatch_cons, firstMatch_nil, alt, hs, hb, hq, hd]

/-- non-vacuity: `a-b` is NOT neutral, and there BigQuery reads one name where the others read `a` -/
example : noDashAfterName tables.rest "a-b".toList = false
    ∧ atomicIdent tables .bigquery "a-b c".toList = some ("a-b".toList, " c".toList)
    ∧ atomicIdent tables .common "a-b c".toList = some ("a".toList, "-b c".toList)
    ∧ noDashAfterName tables.rest "a - b".toList = true := by decide +kernel

/-- Tie A: the grammar graphs of the four dialects (both `all_columns` settings) differ from the common
one exactly in the listed string / identifier alternatives and SQL Server's `[ ]` switch -/
theorem dialect_diff_confined : (Gen.dialectDiff == Ref.allowedDialectDiff) = true :=
  beq_iff_eq.mpr rfl

end MoSql.Props.C18
