import MoSql.Lemmas.LexProps
import MoSql.Lemmas.DialectProps
import MoSql.Gen.Lexemes
import MoSql.Ref
/-!
C07 — identifiers survive every quoting style, and format quotes whatever needs it.
Model: `MoSql.Lex` (`ansi_ident` / `mysql_backtick_ident` / `sqlserver_ident` tokens, `double_column` /
`backtick_column` / `square_column`, `mo_dots.literal_field`, `Word(FIRST_IDENT_CHAR, IDENT_CHAR)`,
`formatting.VALID`, `_should_quote`, `escape`).
-/
namespace MoSql.Props.C07
open MoSql MoSql.Lex

/-- **Any identifier text without backslash, line break or NUL, in any quoting style**, is one
token and decodes to the same name: the text with its dots escaped. -/
theorem ansi_ident_roundtrip (s : List Char) (hp : ∀ c ∈ s, plainIdChar c = true) :
    decodeAnsiIdent (quoteWith dq dq s) = some (literalField s) := by
  simp only [decodeAnsiIdent, matchQuoted_quoteWith, replacePairs_doubled, pyEval1_escape hp]
  rfl

theorem backtick_ident_roundtrip (s : List Char) (hp : ∀ c ∈ s, plainIdChar c = true) :
    decodeBacktickIdent (quoteWith bt bt s) = some (literalField s) := by
  simp only [decodeBacktickIdent, matchQuoted_quoteWith, undouble_doubled, escapeDq_eq, pyEval1_escape hp]
  rfl

theorem square_ident_roundtrip (s : List Char) (hp : ∀ c ∈ s, plainIdChar c = true) :
    decodeSquareIdent (quoteWith '[' rb s) = some (literalField s) := by
  simp only [decodeSquareIdent, matchQuoted_quoteWith, undouble_doubled, escapeDq_eq, pyEval1_escape hp]
  rfl

/-- the name does not depend on the style -/
theorem style_independent (s : List Char) (hp : ∀ c ∈ s, plainIdChar c = true) :
    decodeAnsiIdent (quoteWith dq dq s) = decodeBacktickIdent (quoteWith bt bt s) ∧
    decodeAnsiIdent (quoteWith dq dq s) = decodeSquareIdent (quoteWith '[' rb s) := by
  rw [ansi_ident_roundtrip s hp, backtick_ident_roundtrip s hp, square_ident_roundtrip s hp]
  exact ⟨rfl, rfl⟩

/-- the full statement is false for backslashes (Python escapes are evaluated) and for line
breaks (the decoder fails and the parser raises a non-ParseException) — known findings -/
theorem backslash_full_false : decodeAnsiIdent (quoteWith dq dq "a\\b".toList) = some "a\x08".toList := by decide +kernel
theorem newline_full_false : decodeAnsiIdent (quoteWith dq dq "a\nb".toList) = none := by decide +kernel

/-- Table obligations (regenerated): every character `VALID` lets through is a character the bare-name
lexer accepts, and the first one is accepted in first position. -/
theorem valid_chars_are_ident_chars (c : Char) (h : isAsciiWord c = true) :
    inRanges Gen.identRanges c = true :=
  Dialect.inRanges_of_subset _ _ (by decide +kernel) c (isAsciiWord_eq c ▸ h)

theorem valid_first_is_first_ident_char (c : Char) (h : isAsciiAlphaU c = true) :
    inRanges Gen.firstIdentRanges c = true :=
  Dialect.inRanges_of_subset _ _ (by decide +kernel) c (isAsciiAlphaU_eq c ▸ h)

/-- **A name `format` leaves bare is read back by the lexer as exactly that name** (whatever
follows it, as long as it is not another name character). -/
theorem bare_name_lexes (s rest : List Char) (hv : validName s = true)
    (hr : ∀ r rs, rest = r :: rs → inRanges Gen.identRanges r = false) :
    matchWord Gen.firstIdentRanges Gen.identRanges (s ++ rest) = some (s, rest) := by
  cases s with
  | nil => nomatch hv
  | cons c cs =>
    simp only [validName, Bool.and_eq_true] at hv
    exact matchWord_run (valid_first_is_first_ident_char c hv.1)
      (fun x hx => valid_chars_are_ident_chars x (List.all_eq_true.mp hv.2 x hx)) hr

/-- **`escape` decides correctly** for one path segment: a quoted segment decodes to the name, a
bare segment is a valid bare name (partial: contexts in which a non-reserved keyword is not a
name are measured, see known findings `ident:bare-keyword:*`) -/
theorem escape_segment_partial (isKw : List Char → Bool) (s : List Char)
    (hp : ∀ c ∈ s, plainIdChar c = true) :
    (shouldQuote isKw s = true → decodeAnsiIdent (escSegment dq isKw s) = some (literalField s)) ∧
    (shouldQuote isKw s = false → s ≠ ['*'] → escSegment dq isKw s = s ∧ validName s = true) := by
  constructor
  · intro h
    rw [escSegment, if_pos h]
    exact ansi_ident_roundtrip s hp
  · intro h hs
    rw [escSegment, if_neg (by simp [h])]
    have hv : validName s = true ∧ isKw s = false := by simpa [shouldQuote, hs] using h
    exact ⟨rfl, hv.1⟩

/-- Tie A: the identifier regular expressions and `VALID` the model was written against -/
theorem patterns_pinned :
    ["ansi_ident", "mysql_backtick_ident", "sqlserver_ident", "simple_ident", "VALID", "VALID_flags"].all (fun n =>
      ((Gen.lexPatterns.find? (·.1 == n)).map (·.2)) == ((Ref.lexPatterns.find? (·.1 == n)).map (·.2))) = true := by
  -- why `simp` and not `decide`: see `C06.patterns_pinned`
  simp [Gen.lexPatterns, Ref.lexPatterns]

/-- non-vacuity -/
example : ∀ c ∈ "my col.umn \"x\" `y` [z]".toList, plainIdChar c = true := by decide +kernel
example : validName "col_1".toList = true := by decide +kernel

end MoSql.Props.C07
