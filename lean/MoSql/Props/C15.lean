import MoSql.Gen.Effects
import MoSql.Ref
import MoSql.Lemmas.SessionProps
import MoSql.Lemmas.Tables
/-!
C15 — a call's result depends only on its arguments, not on what was called before.
Model: `MoSql.Session`; the programs of the entry points are read from the current source
(`MoSql.Gen.Effects`).  The matcher itself is abstract: a call's outcome is a function of the parser
it looked up, its own arguments and the values it observed in the parse-scoped globals.  That a
parser built for a key depends on the key alone (and not on which other parsers exist) is an
assumption of the model, tested by the creation-order experiments of the oracle (partial).
-/
namespace MoSql.Props.C15
open MoSql MoSql.Session

/-- Tie A obligation on the current source: in every entry point, every read of a parse-scoped global
(by `_parse`, by the matcher's parse actions, by `scrub`) is preceded by this call's own write -/
theorem reset_before_use :
    Gen.entryPrograms.all (fun e => resetBeforeUse [] e.2.2) = true := by decide +kernel

/-- **what a call observes does not depend on the state it starts in** — for any program that
resets before use, any argument values, any two stores -/
theorem observation_independent (a : String → Val) (p : List Instr) (h : resetBeforeUse [] p = true)
    (s₁ s₂ : Store) : (run a p s₁ []).2 = (run a p s₂ []).2 :=
  run_indep a h (fun _ hg => nomatch hg) []

/-- **History independence, histories of any length**: after any sequence of earlier calls — other
dialects, other options, calls that raised (they leave the same state as calls that return) — a call
looks up the parser `build key` and observes exactly what it observes in a fresh process. -/
theorem history_independent (build : Key → Parser) (cs : List Call) (c : Call) (s0 s0' : Store)
    (hc : resetBeforeUse [] c.prog = true) :
    (step build (after build (init s0) cs) c).2 = (step build (init s0') c).2 := by
  rw [step_outcome (after_cacheOK cs (cacheOK_init build s0)), step_outcome (cacheOK_init build s0'),
    observation_independent c.args c.prog hc _ (init s0').store]

/-- a script of any number of lines: the loop body runs once per line and still resets before use -/
theorem script_lines_reset (body : List Instr) (h : resetBeforeUse [] body = true) (n : Nat) :
    resetBeforeUse [] (loop body n) = true := by
  induction n with
  | zero => rfl
  | succ n ih => exact rbu_append h ih

/-- the hypotheses are met by the real programs, and the statement is not vacuous: a program that
reads `fmap` without installing it first observes the previous call's value -/
example : resetBeforeUse [] [.acq, .set "fmap", .use "fmap", .rel] = true
    ∧ (run (fun _ => 1) [.use "fmap"] (fun _ => 7) []).2 ≠ (run (fun _ => 1) [.use "fmap"] (fun _ => 8) []).2 := by
  decide +kernel

/-- Tie A: the cache is keyed by exactly (parser name, all_columns) -/
theorem cache_keyed : (Gen.cacheKey == [["parser_name", "all_columns"]]) = true := beq_iff_eq.mpr rfl

/-- Tie A: the helpers that handle the parse-scoped state (`_parse`, `_get_or_create_parser` and whatever they are cut
into) are reached from the four entry points only: any other call site must itself run under the lock -/
theorem helpers_private :
    Gen.helperCallers.all (fun c => (Ref.entryPoints.map ("__init__." ++ ·)).contains c.1) = true := by
  decide +kernel

/-- Tie A: `format` reads no parse-scoped global -/
theorem format_pure : Gen.formatReads.isEmpty = true := by decide +kernel

/-- Tie A: no other module-level state is rebound at call time (lazy imports and the warning latch excepted) -/
theorem no_other_module_state :
    (Gen.globalRebinds.all (fun g => Ref.benignRebinds.contains g)
      && Gen.crossModuleWrites.all (fun g => Ref.benignCrossWrites.contains g)) = true :=
  Bool.and_eq_true_iff.mpr ⟨all_contains_self Ref.benignRebinds, all_contains_self Ref.benignCrossWrites⟩

/-- Tie A: the package changes no setting of the interpreter or the process (recursion limit, switch interval, trace
hooks, warning filters, locale, decimal context, gc, environment, working directory, …): a call leaves nothing of that
kind behind for the next one -/
theorem no_process_settings_written : Gen.processSettingCalls.isEmpty = true := by decide +kernel

end MoSql.Props.C15
