import MoSql.Lemmas.ExprSem
import MoSql.Lemmas.LevelsOK
import MoSql.Lemmas.ScrubBasic
import MoSql.Gen.Levels
/-!
C10 — an expression parses the same in every position; redundant parentheses are inert.
Mechanism: every position runs the same `expression` grammar (one `make_tree` model for all of
them), wraps the result in `Group` layers / named slots, and `scrub` strips such layers.
-/
namespace MoSql.Props.C10
open MoSql MoSql.Scrub MoSql.OpJson

theorem levels_ok : Infix.LevelsOK Gen.levels := Infix.levelsOK_gen

/-- **A `Group` layer is invisible to `scrub`** (whatever the options): this is what makes the extra
parentheses around a whole expression, a function argument or a sub-query inert — for every raw
tree that is not empty. -/
theorem group_layer_inert (c : Cfg) (r : Raw) (h : (scrub c r).isNull = false) :
    scrub c (.grp r) = scrub c r :=
  scrub_grp c r

/-- any number of layers -/
theorem group_layers_inert (c : Cfg) (r : Raw) (h : (scrub c r).isNull = false) :
    ∀ n : Nat, scrub c (Nat.rec r (fun _ x => Raw.grp x) n) = scrub c r
  | 0 => rfl
  | n + 1 => (scrub_grp c _).trans (group_layers_inert c r h n)

/-- **The flattening of associative operators looks through any number of parentheses** -/
theorem flatten_through_parens (op : String) (r : Raw) :
    flattenOperand op (.grp r) = flattenOperand op r ∧
    flattenOperand op (.grp (.grp r)) = flattenOperand op r := by
  unfold flattenOperand
  exact ⟨by rw [peel], by rw [peel, peel]⟩

/-- **Position independence**: the value a position stores is `scrub` of the expression's raw tree
wrapped in that position's named slot; the slot's content does not depend on the other slots of the
statement (every position, every option). -/
theorem slot_content (c : Cfg) (before after : List (String × Raw)) (k : String) (r : Raw)
    (h : (scrub c r).isNull = false) :
    (k, mark (scrub c r)) ∈ scrubKw c (before ++ (k, r) :: after) :=
  scrubKw_value c _ k r (List.mem_append_right _ List.mem_cons_self) h

/-- **Parentheses around a whole expression are inert for the model of `parse`**, for every
expression that is precedence-compatible, under every option -/
theorem parens_around_expression_inert (c : Cfg) (x : J) (e : E)
    (h : (scrub c (E.evalE Gen.ctx e)).isNull = false) :
    E.parseE Gen.ctx c x (.paren e) = E.parseE Gen.ctx c x e := by
  simp only [E.parseE, E.evalE_paren, Scrub.run, scrub, scrubKw, collapse_singleton]

end MoSql.Props.C10
