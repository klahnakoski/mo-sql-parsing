import MoSql.Gen.Effects
import MoSql.Ref
import MoSql.Lemmas.AliasProps
import MoSql.Lemmas.Tables
/-!
C17 — returned trees belong to the caller; format does not touch its argument.
Model: `MoSql.Alias` — the result of `scrub` + NULL substitution with a provenance tag on every
container, parameterised by the two ownership facts read from the current source; a heap with
reachability for the frame argument.  Object identity inside the grammar graph and `ParseResults`
is not modelled: the aliasing census on the real results is the correspondence (partial).
-/
namespace MoSql.Props.C17
open MoSql MoSql.Alias

/-- the ownership policy of the current source (Tie A) -/
def current : Policy :=
  { emptyDictFresh := Gen.scrubEmptyDict == "fresh",
    defaultNullFresh := Ref.nullSlotFreshForms.contains Gen.nullSlotValue }

/-- Tie A obligations: `scrub` builds a new dict for an empty dict, and the default NULL node is built per slot -/
theorem empty_dict_is_copied : current.emptyDictFresh = true := beq_iff_eq.mpr rfl
theorem default_null_is_fresh : current.defaultNullFresh = true := by decide +kernel

/-- Tie A obligation: neither `scrub` nor any function of `formatting.py` assigns to, deletes from or calls a mutating
method on a part of what it was given (flow-insensitive reading of the current source): `format` leaves its argument as
it was, and `scrub` leaves the grammar's objects — which the grammar may put under several parents — as they were -/
theorem arguments_not_written : Gen.argumentWrites.all (fun w => Ref.allowedArgumentWrites.contains w) = true :=
  all_contains_self Ref.allowedArgumentWrites

/-- **Every container of every result is the caller's** — for every raw parse result, of any size and
depth, with or without a caller-supplied `null=` object: each list and dict in the returned tree was
allocated during the call, or is the caller's own `null=` object. -/
theorem result_owned_by_caller (r : Raw) (userNull : Bool) : owned (resultP current userNull r) = true :=
  substP_owned current userNull default_null_is_fresh _ (scrubP_owned current empty_dict_is_copied r)

/-- the statement is about the policy, not vacuous: under the policy of the original source
(pass-through of empty dicts, one shared default NULL) `select *` and `select null` return
library-owned containers -/
example :
    owned (resultP ⟨false, false⟩ false (.dict [("select", .dict [("all_columns", .dict [])])])) = false
    ∧ owned (resultP ⟨true, false⟩ false (.dict [("select", .dict [("value", .sqlNull)])])) = false
    ∧ owned (resultP ⟨true, true⟩ false (.dict [("select", .dict [("value", .sqlNull)])])) = true := by decide +kernel

/-- **Frame, any number of mutations**: if the objects the caller writes to are not reachable from the
library's roots (module globals, grammar graph, later results), every library-reachable object keeps
its content and stays reachable — so no later call can observe the mutations. -/
theorem caller_mutations_invisible (lib : List Nat) (h : Heap) (ws : List (Nat × List Nat))
    (hdisj : ∀ w ∈ ws, ¬ Reach h lib w.1) (a : Nat) (ha : Reach h lib a) :
    Reach (writes h ws) lib a ∧ writes h ws a = h a :=
  frame_many lib ws h hdisj a ha

/-- **The same frame read the other way — `format` leaves the tree it is given as it was**: whatever a call writes, if none
of the written objects is reachable from the argument (which is what `arguments_not_written` reads off the source: no
assignment, deletion or mutating call through a parameter or a part of one), every object of the argument keeps its
content and stays reachable from it. -/
theorem argument_untouched (arg : List Nat) (h : Heap) (ws : List (Nat × List Nat))
    (hdisj : ∀ w ∈ ws, ¬ Reach h arg w.1) (a : Nat) (ha : Reach h arg a) :
    Reach (writes h ws) arg a ∧ writes h ws a = h a :=
  frame_many arg ws h hdisj a ha

/-- a heap where it matters: the caller's object 1 and the library's object 2 both point to 3 -/
def exHeap : Heap := fun x => if x = 1 then [3] else if x = 2 then [3] else []

/-- writing to 1 is invisible to the library (hypothesis met); writing to the shared 3 is excluded by it -/
example : (¬ Reach exHeap [2] 1) ∧ Reach exHeap [2] 3 := by
  have key : ∀ a, Reach exHeap [2] a → a = 2 ∨ a = 3 := by
    intro a r
    induction r with
    | root hr => left; simpa using hr
    | @step a b _ hb ih =>
      rcases ih with e | e
      · subst e; right; simpa [exHeap] using hb
      · subst e; simp [exHeap] at hb
  refine ⟨fun r => by have := key 1 r; omega, .step (a := 2) (.root (by simp)) (by simp [exHeap])⟩

end MoSql.Props.C17
