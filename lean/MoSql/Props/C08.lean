import MoSql.Lemmas.ScrubProps
/-!
C08 — results are plain JSON in the documented simplified form.
Model: `MoSql.Scrub` (`utils.scrub`, `simple_op`, `normal_op`, `fmap`, `null_locations`, the
substitution loop of `_parse`), tied to the code by the stub-parser correspondence.
-/
namespace MoSql.Props.C08
open MoSql MoSql.Scrub

/-- **Simplified form, every raw tree, every `fmap`** (default `calls=`): what `scrub` returns is
either the bare NULL placeholder (whose slot the caller records) or a value in which every list
has at least two elements, no list element or dict value is `None`, no internal object occurs
and every NULL placeholder sits in a recorded slot. -/
theorem scrub_simple_wellShaped (fmap : List (String × String)) (r : Raw) (h : noCrash r = true) :
    wsOrBare (scrub { mode := .simple, fmap := fmap } r) = true :=
  ws_scrub _ rfl r h

/-- statements are dict-shaped: their scrubbed form is never the bare placeholder -/
theorem statement_wellShaped (fmap : List (String × String)) (kvs : List (String × Raw))
    (h : noCrashKw kvs = true) :
    wellShaped (scrub { mode := .simple, fmap := fmap } (.dict kvs)) = true :=
  ws_scrubKw _ rfl kvs h

/-- **Plain JSON under every `null=X`**: after `for o, n in null_locations: o[n] = null` nothing
library-internal and no unsubstituted placeholder is left, for every statement-shaped raw tree,
every `fmap` and every plain replacement value `X`. -/
theorem statement_plain (fmap : List (String × String)) (kvs : List (String × Raw)) (x : J)
    (h : noCrashKw kvs = true) (hx : noInternal x = true) :
    noInternal (run { mode := .simple, fmap := fmap } x (.dict kvs)) = true :=
  noInternal_finalize x hx _ (statement_wellShaped fmap kvs h)

/-- the full statement is FALSE for `calls=normal_op`: a sole NULL argument leaks the internal
`Call` object (known finding `normal_op:sole-null-arg`) -/
theorem normal_op_full_false :
    (run { mode := .normal } sqlNullNode (.dict [("select", .call "f" (.list [.sqlNull]) [])])).beq
      (.obj [("select", .obj [("op", .str "f"), ("args", .arr [.opaque "Call"])])]) = true := by
  decide +kernel

/-- non-vacuity: a statement with NULL in a list, in a dict slot and as a sole argument -/
example : noInternal (run {} sqlNullNode (.dict [("select",
    .call "f" (.list [.sqlNull, .str "a", .call "g" .sqlNull [("k", .sqlNull)]]) [])])) = true := by
  decide +kernel

end MoSql.Props.C08
