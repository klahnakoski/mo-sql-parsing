import MoSql.Gen.Lexemes
import MoSql.Ref
import MoSql.Lemmas.ScriptProps
import MoSql.Lemmas.ManyCommandProps
/-!
C13 — a script parses to the list of its statements' trees.
Model: `MoSql.Script` (`parse_delimiters` and the accumulation loop of `_parse`).
-/
namespace MoSql.Props.C13
open MoSql MoSql.Script

/-- **Flatten rule, any number of lines and statements**: if every line contributes the trees of
its statements (non-empty dicts), the result of `_parse` is `None` for no statement, the tree
itself for exactly one, and otherwise the list of all trees in order — however the statements
are distributed over lines and however many lines are empty. -/
theorem flatten_rule (lines : List (List J)) (h : ∀ l ∈ lines, ∀ t ∈ l, isStmtTree t = true) :
    parseResult lines = unwrap lines.flatten := by
  rw [parseResult, accumulate_lines lines h]

theorem no_statement : parseResult [] = .null ∧ parseResult [[], []] = .null := ⟨rfl, rfl⟩

theorem single_statement (t : J) (h : isStmtTree t = true) : parseResult [[t]] = t :=
  flatten_rule [[t]] (by simpa using h)

/-- **Custom delimiter, any number of statements**: `s₁ d⏎ s₂ d⏎ … sₙ d⏎` is cut into exactly
`s₁ … sₙ` when no character of `d` occurs in a statement (partial: a delimiter character inside a
literal or comment is cut as well — known findings `delim:*`). -/
theorem split_inverts_join (d : List Char) (hd : d ≠ []) (ss : List (List Char))
    (h : ∀ s ∈ ss, (∀ c ∈ s, c ∉ d) ∧ startsNonWs s = true) :
    splitBlock d (joinD d ss).length (joinD d ss) = ss ++ [[]] :=
  splitBlock_joinD hd (length_le_length_joinD d ss) h

/-- without a directive the whole text is one block, handed to the statement parser unsplit
(semicolons are then separated by the grammar, which knows about literals and comments) -/
theorem no_directive_one_block (sql : List Char) (h : findDirective sql 0 true = none) :
    pieces sql = if (strip sql).isEmpty then [] else [.stmt (strip sql)] := by
  rw [pieces, parseDelimiters, h]
  rfl

/-- **A directive is scoped**: what precedes it is split with the delimiter in force before it,
the directive is its own entry, and only what follows is split with the new delimiter. -/
theorem directive_scoped (fuel : Nat) (sql delim : List Char) (st en : Nat) (g : List Char)
    (h : findDirective sql 0 true = some (st, en, g)) :
    parseDelimiters (fuel + 1) sql delim =
      (if (strip (sql.take st)).isEmpty then []
       else if delim == [';'] then [Piece.stmt (strip (sql.take st))]
       else (splitBlock delim (strip (sql.take st)).length (strip (sql.take st))).map Piece.stmt)
      ++ [Piece.directive ((sql.drop st).take (en - st))]
      ++ parseDelimiters fuel (sql.drop en) (strip g) := by
  rw [parseDelimiters, h]

/-- **`;`-separated statements, any number of them**: leading semicolons, any run of one or more
semicolons between statements (doubled separators included), any trailing run — the grammar's
`many_command` returns exactly the statements, in order.  (A `;` inside a literal, a quoted name or a
comment is not a separator token; that is the lexer's doing and is exercised by the oracle.) -/
theorem many_split {S : Type} (lead : Nat) (xs : List (S × Nat)) (h : ManyCommand.separated xs = true) :
    ManyCommand.manyCommand (ManyCommand.semis lead ++ ManyCommand.body xs) = some (xs.map (·.1)) := by
  rw [ManyCommand.manyCommand, ManyCommand.go_semis, Bool.and_false, ManyCommand.go_body xs h]

/-- two statements without a separator are not a script (parse_all fails), and the hypothesis of
`many_split` is met by a script with leading, doubled and trailing separators -/
example : ManyCommand.manyCommand [ManyCommand.Tk.stmt 1, .stmt 2] = none
    ∧ ManyCommand.separated [(1, 2), (2, 1), (3, 0)] = true
    ∧ ManyCommand.manyCommand (ManyCommand.semis 2 ++ ManyCommand.body [(1, 2), (2, 1), (3, 3)]) = some [1, 2, 3] := by
  decide +kernel

/-- the full statement is false: the textual split ignores quoting (witness: a literal
containing `$$⏎` under `DELIMITER $$` is cut in the middle) -/
theorem delimiter_in_literal_full_false :
    splitBlock "$$".toList 40 "select '$$\n' $$".toList
      = ["select '".toList, "' ".toList, []] := by decide +kernel

/-- Tie A: the regular expressions the model was written against are the ones the current source
compiles (regenerated on every run) -/
theorem patterns_pinned :
    ["delimiter_pattern", "delimiter_flags"].all (fun n =>
      ((Gen.lexPatterns.find? (·.1 == n)).map (·.2)) == ((Ref.lexPatterns.find? (·.1 == n)).map (·.2))) = true := by
  -- `simp` looks the names up in the unfolded tables and closes `p == p` outright; a differing or missing pattern leaves `False`
  simp [Gen.lexPatterns, Ref.lexPatterns]

end MoSql.Props.C13
