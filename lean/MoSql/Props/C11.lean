import MoSql.Lemmas.ScrubProps
import MoSql.OpJson
/-!
C11 — `null=X` is exactly "replace every NULL node by X".
-/
namespace MoSql.Props.C11
open MoSql MoSql.Scrub

/-- **Every raw tree, every `calls=` mode, every `fmap`, every `X`**: the result for `null=X` is
the default result with each `{"null": {}}` node replaced by `X` and nothing else changed —
provided the scrubbed tree contains no `{"null": {}}`-shaped node of its own (a decidable
condition; SQL has no function called `null`). -/
theorem null_subst (c : Cfg) (x : J) (r : Raw) (h : noNullNode (scrub c r) = true) :
    run c x r = substNull x (run c sqlNullNode r) :=
  finalize_subst x _ h

/-- the comparison folds (`= NULL` → `missing`, `<> NULL` → `exists`) are made by
`to_json_operator`, which never sees `null=`: they are the same for every `X` -/
theorem compare_fold_independent (assoc : List String) (a : Raw) :
    OpJson.mkBinary assoc "eq" a .sqlNull = .call "missing" a [] ∧
    OpJson.mkBinary assoc "neq" a .sqlNull = .call "exists" a [] :=
  ⟨rfl, rfl⟩

/-- under `calls=normal_op` the substitution does not reach a sole NULL argument (known
finding): with `X = 0` the placeholder is still there -/
theorem normal_op_full_false :
    (run { mode := .normal } (.int 0) (.dict [("select", .call "f" .sqlNull [])])).beq
      (.obj [("select", .obj [("op", .str "f"), ("args", .arr [.opaque "Call"])])]) = true := by
  decide +kernel

/-- non-vacuity of `null_subst` -/
example : noNullNode (scrub {} (.dict [("select", .call "f" (.list [.sqlNull, .str "a"]) [("k", .sqlNull)])])) = true := by
  decide +kernel

end MoSql.Props.C11
