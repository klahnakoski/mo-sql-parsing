import MoSql.Gen.Effects
import MoSql.Ref
import MoSql.Lemmas.ThreadProps
import MoSql.Props.C15
/-!
C16 — concurrent calls from several threads behave as if run one at a time.
Model: `MoSql.Session` (threads, one lock, arbitrary schedules); the programs of the entry points come
from the current source (`MoSql.Gen.Effects`).  The theorem is about the lock protocol: Python's
scheduler, the parser build inside the lock and `format`'s keyword probe (which runs the shared
grammar outside `parse_locker`) are exercised by the thread soak only (partial).
-/
namespace MoSql.Props.C16
open MoSql MoSql.Session

/-- Tie A obligation on the current source: each entry point takes `parse_locker` before it touches a
parse-scoped global, installs its own values before anything reads them, and releases at the end -/
theorem lock_covers :
    Gen.entryPrograms.all (fun e => sectionOK false [] e.2.2) = true := by decide +kernel

/-- a thread may issue any number of calls one after the other -/
theorem call_sequences_ok (calls : List (List Instr)) (h : ∀ c ∈ calls, sectionOK false [] c = true) :
    sectionOK false [] calls.flatten = true := by
  induction calls with
  | nil => rfl
  | cons c cs ih =>
    exact sectionOK_append (h c List.mem_cons_self) (ih fun x hx => h x (List.mem_cons_of_mem _ hx))

/-- **No call observes another call's callback, NULL placeholder or rename map** — any number of
threads, any programs that obey the discipline, any schedule, any reachable state: the value a
thread is about to read is the one it installed itself. -/
theorem reads_own_values (args : Nat → String → Val) (prog : Nat → List Instr) (s0 : Store)
    (hp : ∀ t, sectionOK false [] (prog t) = true) (sched : List Nat) (t : Nat) (g : String) (p : List Instr)
    (hnext : ((runSched args (sysInit prog s0) sched).th t).todo = .use g :: p) :
    (runSched args (sysInit prog s0) sched).store g = args t g := by
  obtain ⟨d, _, hok, _, hval⟩ := inv_sched sched (inv_init s0 s0 hp) t
  rw [hnext] at hok
  simp only [sectionOK, Bool.and_eq_true, decide_eq_true_eq, List.contains_iff_mem] at hok
  exact (hval hok.1.1 g hok.1.2).2

/-- **Serialisability, every schedule**: when a thread has finished, what its calls observed is exactly
what they observe when the thread runs alone (from any initial store `s0'`). -/
theorem serialisable (args : Nat → String → Val) (prog : Nat → List Instr) (s0 s0' : Store)
    (hp : ∀ t, sectionOK false [] (prog t) = true) (sched : List Nat) (t : Nat)
    (hdone : ((runSched args (sysInit prog s0) sched).th t).todo = []) :
    ((runSched args (sysInit prog s0) sched).th t).tr = (run (args t) (prog t) s0' []).2 := by
  obtain ⟨_, _, _, hrun, _⟩ := inv_sched sched (inv_init s0' s0 hp) t
  rw [hdone] at hrun
  exact (congrArg Prod.snd hrun).symm

/-- **All calls complete**: in every reachable state in which some thread still has work, some thread
can move (the lock holder, or — when the lock is free — anyone), so no schedule can deadlock. -/
theorem some_thread_can_move (args : Nat → String → Val) (prog : Nat → List Instr) (s0 : Store)
    (hp : ∀ t, sectionOK false [] (prog t) = true) (sched : List Nat) (u : Nat)
    (hu : ((runSched args (sysInit prog s0) sched).th u).todo ≠ []) :
    ∃ t, enabled (runSched args (sysInit prog s0) sched) t :=
  no_deadlock (inv_sched sched (inv_init s0 s0 hp)) u hu

/-- non-vacuity: without the lock two interleaved calls do observe each other's values -/
example :
    let prog : Nat → List Instr := fun _ => [.set "fmap", .use "fmap"]
    let args : Nat → String → Val := fun t _ => t + 1
    ((runSched args (sysInit prog (fun _ => 0)) [0, 1, 0]).th 0).tr = [2] := by decide +kernel

example : sectionOK false [] [.acq, .set "fmap", .use "fmap", .rel] = true
    ∧ sectionOK false [] [.set "fmap", .use "fmap"] = false := by decide +kernel

/-- Tie A: no helper that handles the state the lock protects is called from outside the lock by anything but an
entry point (whose own program is judged by `lock_covers`) -/
theorem helpers_private :
    Gen.helperCallers.all (fun c => (Ref.entryPoints.map ("__init__." ++ ·)).contains c.1) = true :=
  C15.helpers_private

/-- Tie A: every call into the parsing engine anywhere in the package runs under `parse_locker` (the engine
keeps a global whitespace stack; `format`'s keyword probe used to run it outside the lock — repaired) -/
theorem engine_only_under_lock : Gen.engineCalls.all (·.2) = true := by decide +kernel

end MoSql.Props.C16
