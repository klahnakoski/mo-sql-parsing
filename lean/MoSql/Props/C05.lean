import MoSql.Lemmas.ExprSem
import MoSql.Lemmas.InfixLeftover
import MoSql.Lemmas.Tables
import MoSql.Lemmas.LevelsOK
import MoSql.Gen.Levels
import MoSql.Lemmas.ScrubAtoms
/-!
C05 — an accepted statement loses no identifier, number or string.
The one place where the library can answer while forgetting part of its input is
`make_tree` (it returns `flat_tokens[0]` and drops the rest when nothing reduces any more).
The simplification that follows (`utils.scrub`, which "removes None-valued entries") is shown to remove nothing else.
-/
namespace MoSql.Props.C05
open MoSql MoSql.Infix

theorem levels_ok : LevelsOK Gen.levels := levelsOK_gen

/-- **Nothing is dropped, any depth, any parenthesisation**: if every parenthesis level of a written
expression is precedence-compatible under the current level table, no activation of `make_tree`
leaves tokens behind. -/
theorem nothing_dropped (e : E) (h : E.okTop Gen.ctx e = true) : E.dropsTop Gen.ctx e = false :=
  E.dropsTop_of_okTop Gen.ctx levels_ok e h

/-- one activation: the reducer ends with exactly one item -/
theorem leftover_empty (w : W Raw) (hwf : w.wfB Gen.levels = true) (hc : w.compatB = true) :
    (makeTree (OpJson.builders Gen.assocSet) Gen.levels w.flat).leftover = [] :=
  congrArg Result.leftover (E.evalW_eq Gen.ctx levels_ok w hwf hc)

/-- the full statement is false: a prefix operator written to the right of a tighter binary
operator is taken as the operand and the real operand is dropped (`a + ~ b` → `{"add": ["a", "~"]}`,
`b` forgotten) -/
theorem prefix_right_of_tighter_full_false :
    (makeTree (OpJson.builders Gen.assocSet) Gen.levels
      [.val (.str "a"), .op ⟨(Gen.opInfo' "+").id, "add", .str "+"⟩,
       .op ⟨(Gen.opInfo' "u~").id, "binary_not", .str "~"⟩, .val (.str "b")]).leftover.length = 1 := by
  decide +kernel

/-- the full statement is false in a second way (known findings `dropped:filter-then-over`, `dropped:cast-then-accessor`):
**a tighter suffix operator written behind a looser one is reduced away** — for every operand, every pair of suffix
levels of the current table (`[x]`, `.name`, `:name`, OVER, FILTER, `::type`) and whatever the two suffixes carry,
`make_tree` answers the bare operand and leaves one item over: `a::int.b` and `sum(a) filter (…) over (…)` are answered as
`a` and `sum(a)`.  (The other order is `leftover_empty`.)  Quantified over the regenerated table (tighter = earlier in it). -/
theorem tighter_suffix_behind_looser_full_false :
    ∀ lj ∈ Gen.levels, ∀ li ∈ Gen.levels, lj.kind = .suf → li.kind = .suf → Gen.levels.idxOf li < Gen.levels.idxOf lj →
    ∀ (a p q : Raw) (n m : String),
    (makeTree (OpJson.builders Gen.assocSet) Gen.levels [.val a, .op ⟨lj.id0, n, p⟩, .op ⟨li.id0, m, q⟩]).head = some a ∧
    (makeTree (OpJson.builders Gen.assocSet) Gen.levels [.val a, .op ⟨lj.id0, n, p⟩, .op ⟨li.id0, m, q⟩]).leftover.length = 1 := by
  intro lj hj li hi _ ki hlt a p q n m
  rw [suffix_behind_looser _ levels_ok (getElem?_idxOf hi) (getElem?_idxOf hj) hlt ki a rfl rfl]
  exact ⟨rfl, rfl⟩

/-- the hypotheses are met: `::` (level id 5) is a looser suffix than `.name` (level id 1) in the current table -/
example : (⟨Kind.suf, 5, 0, 0⟩ : Level) ∈ Gen.levels ∧ (⟨Kind.suf, 1, 0, 1⟩ : Level) ∈ Gen.levels := by decide +kernel

/-- … and the first way in general: **a prefix operator written to the right of any tighter binary operator** is taken
for the operand, for every pair of levels of the current table, all operands and whatever the operator tokens carry -/
theorem prefix_right_of_tighter_full_false_all :
    ∀ lb ∈ Gen.levels, ∀ lp ∈ Gen.levels, lb.kind = .bin → lp.kind = .pre → Gen.levels.idxOf lb < Gen.levels.idxOf lp →
    ∀ (a c pb pp : Raw) (nb np : String),
    (makeTree (OpJson.builders Gen.assocSet) Gen.levels
      [.val a, .op ⟨lb.id0, nb, pb⟩, .op ⟨lp.id0, np, pp⟩, .val c]).leftover.length = 1 := by
  intro lb hb lp hp kb _ hlt a c pb pp nb np
  rw [looser_right_of_binary _ levels_ok (getElem?_idxOf hb) (getElem?_idxOf hp) hlt kb a c rfl rfl]
  rfl

/-- **Simplification loses no content**: every string, number and boolean leaf of the raw tree the parse actions
built is a leaf of what `scrub` returns — for every raw tree of any size, both `calls=` modes and every `fmap` —
provided no call carries a keyword argument named like the (renamed) call itself (`kwargs[op] = args` would
overwrite it).  What `scrub` removes is `None`, empty lists, and list / Group wrappers. -/
theorem scrub_loses_no_content (c : Cfg) (r : Raw) (h : Scrub.noClash c r = true) :
    ∀ a ∈ Scrub.rAtoms r, a ∈ Scrub.jAtoms (Scrub.scrub c r) :=
  Scrub.scrub_keeps_atoms c r h

/-- the hypothesis is met by a non-trivial tree, whose content is indeed kept -/
example :
    let r : Raw := .call "f" (.list [.str "x", .none, .grp (.int 7)]) [("g", .call "h" (.flt "1.5") []), ("k", .none)]
    Scrub.noClash {} r = true ∧ Scrub.rAtoms r = [.s "x", .i 7, .f "1.5"]
      ∧ Scrub.jAtoms (Scrub.scrub {} r) = [.f "1.5", .s "x", .i 7] := by decide +kernel

/-- without the hypothesis the statement is false in the default mode: `Call("f", ["x"], {"f": 5})` simplifies to
`{"f": "x"}` and the 5 is gone (replayed on the real `scrub`: the same); `calls=normal_op` keeps both -/
theorem scrub_clash_loses_content :
    let r : Raw := .call "f" (.str "x") [("f", .int 5)]
    Scrub.Atom.i 5 ∈ Scrub.rAtoms r ∧ Scrub.Atom.i 5 ∉ Scrub.jAtoms (Scrub.scrub {} r) := by decide +kernel

end MoSql.Props.C05
