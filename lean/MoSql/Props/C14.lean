import MoSql.Gen.Graph
import MoSql.Gen.Levels
import MoSql.Ref
import MoSql.Lemmas.BracketProps
import MoSql.Props.C06
import MoSql.Lemmas.PegBounds
import MoSql.Lemmas.PegExample
/-!
C14 — malformed input is rejected with ParseException, never answered or crashed on.

What is proved: (1) the edits the oracle calls "certainly ill-formed" really leave every
bracket-balanced language, for token lists of any length and nesting; (2) which inputs make the
modelled parse actions raise (the only way a non-ParseException can arise); (3) the one place where
the library answers instead of rejecting (`make_tree` returning its first token); (4) for the model of the
recogniser engine (`MoSql.Peg`, tied to mo_parsing by the correspondence run in the C09 check): every match ends inside
the text, for every grammar over the three whitespace engines.  That the SQL grammar itself rejects the rest is
decided on the real parser by the oracle (partial).
-/
namespace MoSql.Props.C14
open MoSql MoSql.Brackets MoSql.Lex MoSql.Infix

/-- every written expression, of any depth and with any redundant parentheses, is bracket-balanced -/
theorem written_expression_balanced (e : E) : balanced (E.tks e) = true :=
  (E.tks_seg e).balanced

/-- **deleting any one bracket of a balanced token list leaves the balanced language** -/
theorem delete_bracket_ill_formed (ts : List Tk) (i : Nat) (hi : i < ts.length)
    (hb : balanced ts = true) (hk : ts[i] ≠ .other) : balanced (ts.eraseIdx i) = false :=
  not_balanced_of_net_ne_zero <| by
    rw [net_eraseIdx ts i hi, balanced_net _ hb]
    exact fun h => w_ne_zero hk (by omega)

/-- **an extra bracket after a complete statement** -/
theorem extra_bracket_ill_formed (ts : List Tk) (hb : balanced ts = true) (t : Tk) (ht : t ≠ .other) :
    balanced (ts ++ [t]) = false :=
  not_balanced_of_net_ne_zero <| by
    rw [net_append, balanced_net _ hb]
    exact fun h => w_ne_zero ht (by simpa [net] using h)

/-- **truncation inside an open bracket**: a prefix with more opening than closing brackets -/
theorem truncated_inside_bracket_ill_formed (p : List Tk) (h : 0 < net p) : balanced p = false :=
  not_balanced_of_net_ne_zero (Int.ne_of_gt h)

/-- non-vacuity: `f ( ( a ) , b )` is balanced, and it stops being so after each kind of edit -/
example : balanced [.other, .lb, .lb, .other, .rb, .other, .other, .rb] = true
    ∧ balanced ([Tk.other, .lb, .lb, .other, .rb, .other, .other, .rb].eraseIdx 4) = false
    ∧ 0 < net [Tk.other, .lb, .lb, .other] := by decide +kernel

/-- **`single_literal` / `double_literal` cannot raise on a literal without backslash, carriage return
or NUL** (any length): the decoder returns a value -/
theorem single_literal_total_guarded (s : List Char) (hp : ∀ c ∈ s, plainChar c = true) :
    (decodeImpl (encodeSQ s)).isSome = true := by
  rw [C06.sq_impl_partial s hp]; rfl

/-- the full statement is false: a literal ending in a backslash, or containing NUL, makes the action
raise (the caller sees `mo_logs.Except`, not `ParseException`) — known findings `crash:single_literal` -/
theorem single_literal_raises :
    decodeImpl "'a\\'".toList = none ∧ decodeImpl "'a\x00b'".toList = none := by decide +kernel

/-- `parse_int` on the digits of any natural number returns that number (no conversion can fail) -/
theorem parse_int_total (n : Nat) : parseNat (digits n) = n := parseNat_digits n

/-- **answered instead of rejected**: when no operator of the level table can reduce any more,
`make_tree` returns its first token and forgets the rest — `a BETWEEN b` is answered with `a`
(known finding `answered:…`); witness on the current level table -/
theorem make_tree_answers_incomplete_ternary :
    (match (makeTree (OpJson.builders Gen.assocSet) Gen.levels
      [.val (.str "a"), .op ⟨(Gen.opInfo' "between").id, "between", .str "between"⟩, .val (.str "b")]) with
     | ⟨some (.str s), rest⟩ => s == "a" && rest.length == 2
     | _ => false) = true := by decide +kernel

/-- Tie A: every parse action attached anywhere in the current grammar graphs is one the analysis
above knows (modelled, or only exercised); a new or renamed action breaks this `decide` -/
theorem actions_classified :
    Gen.parseActions.all (fun a => Ref.actionsModelled.contains a || Ref.actionsExercised.contains a) = true := by
  decide +kernel

/-- **the recogniser engine reports positions inside the input**: whatever grammar runs on the three whitespace
engines of the SQL grammar, with whatever fuel, the text left over by a match is never longer than the text given
(the end position lies in `0 … len`) -/
theorem engine_match_ends_inside_the_text (rules : Nat → Peg.G) (fuel : Nat) (g : Peg.G) (x : Peg.Str) (ts : List Peg.Tok) (r : Peg.Str)
    (h : Peg.run { skip := Peg.engines, rule := rules } fuel g x = .ok ts r) : r.length ≤ x.length :=
  Peg.run_le (E := { skip := Peg.engines, rule := rules }) Peg.engines_le fuel g x ts r h

/-- a non-trivial match to which the statement applies -/
example : Peg.run { skip := Peg.engines, rule := fun _ => .empty } 20 Peg.Example.g "select a , b ;".toList
    = .ok [.leaf "select".toList, .leaf "a".toList, .leaf ",".toList, .leaf "b".toList] " ;".toList := by rfl

end MoSql.Props.C14
