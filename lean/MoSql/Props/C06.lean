import MoSql.Gen.Lexemes
import MoSql.Ref
import MoSql.Lemmas.LexProps
import MoSql.OpJson
/-!
C06 — string and numeric literals survive parse and format exactly.
Model: `MoSql.Lex` (`Formatter._literal`, the `ansi_string` / `mysql_doublequote_string` token
regexes, `single_literal` / `double_literal` including Python's string-literal evaluation,
`parse_int`), tied by correspondence to the real regexes and decoders.
-/
namespace MoSql.Props.C06
open MoSql MoSql.Lex

/-- **Every string, any length, any characters**: the text `format` writes for a literal is one
token of the lexer — the quoted-string regex consumes exactly it and nothing of what follows
(unless what follows starts with another quote). -/
theorem sq_token_exact (s rest : List Char) (hr : ∀ c cs, rest = c :: cs → (c == q) = false) :
    matchSQ (encodeSQ s ++ rest) = some (doubleQuotes q s, rest) :=
  matchQuoted_quoteWith_append q q s rest hr

/-- **… and by SQL's rule it denotes exactly `s`** -/
theorem sq_roundtrip_spec (s : List Char) : decodeSpec (encodeSQ s) = some s := by
  simp [decodeSpec, matchSQ_encodeSQ, undouble_doubled]

/-- **The implementation's decoder is exact on every string without backslash, carriage
return or NUL** (partial: see the witnesses below) -/
theorem sq_impl_partial (s : List Char) (hp : ∀ c ∈ s, plainChar c = true) :
    decodeImpl (encodeSQ s) = some s := by
  simp only [decodeImpl, matchSQ_encodeSQ, replacePairs_doubled, escapeDq_eq,
    escape_escape (p := (· == dq)) (r := (· == q)) rfl (fun c h => by rw [eq_of_beq h]; rfl)]
  exact pyEval_escape (fun _ h => h) rfl hp

/-- the full statement is false: Python evaluates backslash escapes … -/
theorem sq_impl_backslash_false : decodeImpl (encodeSQ "a\\b".toList) = some "a\x08".toList := by decide +kernel
/-- … rejects a trailing backslash and a NUL (the parser then raises `Except`, see C14) … -/
theorem sq_impl_trailing_backslash_false : decodeImpl (encodeSQ "a\\".toList) = none := by decide +kernel
theorem sq_impl_nul_false : decodeImpl (encodeSQ "a\x00b".toList) = none := by decide +kernel
/-- … and normalises carriage returns -/
theorem sq_impl_cr_false : decodeImpl (encodeSQ "a\rb".toList) = some "a\nb".toList := by decide +kernel

/-- double-quoted literals (`parse_mysql`, `parse_bigquery`): same statements -/
theorem dq_token_exact (s rest : List Char) (hr : ∀ c cs, rest = c :: cs → (c == dq) = false) :
    matchDQ (encodeDQ s ++ rest) = some (doubleQuotes dq s, rest) :=
  matchQuoted_quoteWith_append dq dq s rest hr

theorem dq_impl_partial (s : List Char) (hp : ∀ c ∈ s, plainChar c = true) :
    decodeImplDQ (encodeDQ s) = some s := by
  simp only [decodeImplDQ, matchDQ_encodeDQ, replacePairs_doubled]
  exact pyEval_escape (fun _ h => by rw [h]; rfl) rfl hp

/-- **Every integer of any magnitude** written in decimal reads back as itself -/
theorem int_roundtrip (n : Nat) : parseNat (digits n) = n := parseNat_digits n

/-- **integers with an exponent are exact, whatever their size**: `parse_int` on `<n>e<k>` / `<n>E+<k>` (the texts
`int_num` accepts) gives n·10^k — no float on the way (the library used to go through `float`: repaired, `fad9567`) -/
theorem int_exponent_exact (n k : Nat) (upper plus : Bool) :
    parseIntText (digits n ++ (if upper then 'E' else 'e') :: ((if plus then ['+'] else []) ++ digits k)) = n * 10 ^ k := by
  rw [parseIntText_exp _ (digits_all_digit n) _ (by cases upper <;> rfl), parseNat_digits]
  cases plus
  · rw [if_neg Bool.false_ne_true, List.nil_append, stripPlus_of_digits (digits_all_digit k), parseNat_digits]
  · rw [if_pos rfl, List.singleton_append, stripPlus, parseNat_digits]

theorem int_plain_exact (n : Nat) : parseIntText (digits n) = n :=
  (parseIntText_digits _ (digits_all_digit n)).trans (parseNat_digits n)

example : parseIntText "123e45".toList = 123 * 10 ^ 45 ∧ parseIntText "7E+300".toList = 7 * 10 ^ 300 := by
  decide +kernel

/-- a minus sign directly before a number folds into it; `+` disappears (partial: `is_number`
goes through `float()`, so integers beyond the binary64 range are not folded — known finding) -/
theorem sign_folds_partial (n : Int) (h : n.natAbs < 2 ^ 1024 - 2 ^ 970) :
    OpJson.mkPrefix "neg" (.int n) = .int (-n) ∧ OpJson.mkPrefix "pos" (.int n) = .int n :=
  OpJson.mkPrefix_sign (x := .int n) (by rw [OpJson.isNumber]; exact decide_eq_true h)

theorem sign_fold_huge_false :
    OpJson.isNumber (.int (2 ^ 1024)) = false := by decide +kernel

/-- non-vacuity: a string with both quote characters, a semicolon, comment markers and a
non-ASCII letter satisfies the hypothesis of `sq_impl_partial` -/
example : ∀ c ∈ "it's \"x\"; -- /* é".toList, plainChar c = true := by decide +kernel

/-- Tie A: the regular expressions the model was written against are the ones the current source
compiles (regenerated on every run) -/
theorem patterns_pinned :
    ["real_num", "int_num", "ansi_string", "mysql_doublequote_string"].all (fun n =>
      ((Gen.lexPatterns.find? (·.1 == n)).map (·.2)) == ((Ref.lexPatterns.find? (·.1 == n)).map (·.2))) = true := by
  -- While the unfolded tables are the same list the two look-ups are one term and `x == x` closes the goal; where they
  -- differ `simp` evaluates them (a named pattern that differs or is missing leaves `False`).  `decide` pays ten times that.
  simp [Gen.lexPatterns, Ref.lexPatterns]

end MoSql.Props.C06
