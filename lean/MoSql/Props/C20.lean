import MoSql.Lemmas.WindowProps
/-!
C20 — window frames are recorded and rendered exactly.
-/
namespace MoSql.Props.C20
open MoSql.Window

/-- **Every valid frame form with arbitrary offsets** (ROWS/RANGE, single bound or BETWEEN, the five
bound kinds on either side, lower ≤ upper) is recorded as the property demands: PRECEDING offsets
negative, FOLLOWING positive, CURRENT ROW zero, UNBOUNDED absent — including zero offsets, where the
three-way heuristic of `_to_between_call` could have gone wrong. -/
theorem frame_parse_spec (f : FrameSyn) (h : valid f = true) : parseFrame f = specFrame f := by
  cases f with
  | single b => cases b <;> rfl
  | between lo hi =>
    obtain ⟨hlo, hhi, hle⟩ := valid_between h
    exact toBetween_toBound hlo hhi hle

/-- a recorded frame that some valid frame form denotes: lower ≤ upper, not unbounded on both sides -/
def wfFrame (F : Frame) : Bool :=
  match F.min, F.max with
  | some a, some b => decide (a ≤ b)
  | none, none => false
  | _, _ => true

/-- **format then parse is the identity on recorded frames, for arbitrary offsets**: for every
well-formed frame dict the formatter writes a frame clause, and that clause is recorded as the same
dict again. -/
theorem frame_fmt_roundtrip_partial (F : Frame) (h : wfFrame F = true) :
    ∃ g, fmtFrame F = some (some g) ∧ parseFrame g = F := by
  match F, h with
  | ⟨none, some b⟩, _ => exact fmtFrame_max b
  | ⟨some a, none⟩, _ => exact fmtFrame_min a
  | ⟨some a, some b⟩, h => exact fmtFrame_min_max (of_decide_eq_true h)

/-- every valid frame form that is not unbounded on both sides denotes a well-formed frame -/
theorem spec_wellformed (f : FrameSyn) (hv : valid f = true) (hne : specFrame f ≠ ⟨none, none⟩) :
    wfFrame (specFrame f) = true := by
  cases f with
  | single b => cases b <;> simp [specFrame, wfFrame]
  | between lo hi =>
    obtain ⟨-, -, hle⟩ := valid_between hv
    simp only [specFrame] at hne ⊢
    cases ha : value lo <;> cases hb : value hi
    · exact absurd (by rw [ha, hb]) hne
    · rfl
    · rfl
    · exact decide_eq_true (hle _ _ ha hb)

/-- the frame unbounded on both sides is recorded as `{}` and `format` writes nothing for it -/
theorem both_unbounded_full_false :
    specFrame (.between .unboundedPreceding .unboundedFollowing) = ⟨none, none⟩ ∧
    fmtFrame ⟨none, none⟩ = some none :=
  ⟨rfl, rfl⟩

end MoSql.Props.C20
