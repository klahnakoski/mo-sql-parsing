import MoSql.Lemmas.ExprSem
import MoSql.Lemmas.LevelsOK
import MoSql.Gen.Levels
/-!
C01 — expression trees honour operator precedence, associativity and operand order.
Property theorems only; helper lemmas live in `MoSql/Lemmas`.
-/
namespace MoSql.Props.C01
open MoSql MoSql.Infix

/-- Table obligation, re-decided on every run against the operator table the current source
passes to `infix_notation`: operator identities are not shared between levels and the `AND`
of `BETWEEN … AND` is shared only with a looser level. -/
theorem levels_ok : LevelsOK Gen.levels := levelsOK_gen

/-- **make_tree computes the precedence tree.**  For every parenthesis-free operator tree `w`
over the current level table (prefix, suffix, binary and ternary operators, any size) that is
the tree operator precedence prescribes for its own token sequence (`Compat`), the reducer
returns exactly `val w` — each operator applied to exactly its written operands, in order —
and forgets nothing. -/
theorem makeTree_precedence_tree (w : W Raw) (hwf : w.wfB Gen.levels = true)
    (hc : w.compatB = true) :
    makeTree (OpJson.builders Gen.assocSet) Gen.levels w.flat
      = ⟨some (w.val (OpJson.builders Gen.assocSet) Gen.levels), []⟩ :=
  E.evalW_eq Gen.ctx levels_ok w hwf hc

/-- the same for a whole written expression: one activation of `make_tree` per parenthesis
level, each returning the precedence tree of what it sees -/
theorem evalE_precedence_tree (e : E)
    (hwf : (E.toW Gen.ctx e).wfB Gen.levels = true) (hc : (E.toW Gen.ctx e).compatB = true) :
    E.evalE Gen.ctx e = (E.toW Gen.ctx e).val (OpJson.builders Gen.assocSet) Gen.levels :=
  congrArg E.resultVal (makeTree_precedence_tree _ hwf hc)

/-- **C01 (model level, every depth, every parenthesisation).**  For a written expression in
which every parenthesis level is precedence-compatible under the *current* level table
(`okTop`, a decidable check), the model of `parse` returns `sem e`: every operator applied to
exactly its written operands in written order, parenthesised parts kept as groups, function
arguments parsed the same way. -/
theorem parse_eq_sem (e : E) (h : E.okTop Gen.ctx e = true) : E.evalE Gen.ctx e = E.sem Gen.ctx e :=
  E.evalE_eq_sem Gen.ctx levels_ok e h

end MoSql.Props.C01
