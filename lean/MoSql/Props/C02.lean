import MoSql.Lemmas.QueryProps
import MoSql.Lemmas.ScrubBasic
/-!
C02 — every query clause lands under its own key with the written grouping.
Models: `MoSql.Query` (`to_union_call`) and `MoSql.Scrub` (how the named clause slots of a
statement become the keys of the result).
-/
namespace MoSql.Props.C02
open MoSql MoSql.Query MoSql.Scrub

/-- **Set operations, chains of any length**: `to_union_call` groups left to right, merges a run of
one UNION-kind operator written at the same level into a single n-ary node, and never looks inside
an operand (a parenthesised operand — already a tree — stays grouped). -/
theorem union_fold (first : J) (rest : List (String × J)) :
    fold first none rest = spec first rest.length rest :=
  fold_eq_spec rest.length rest first (Nat.le_refl _)

/-- a trailing ORDER BY / LIMIT / OFFSET attaches to the whole set operation -/
theorem order_attaches_to_whole (first : J) (rest : List (String × J)) (ob : J)
    (h : ob.isNull = false) :
    toUnionCall first rest ob .null .null = .obj [("from", fold first none rest), ("orderby", ob)] := by
  rw [toUnionCall, h]
  rfl

theorem no_tail_no_wrapper (first : J) (rest : List (String × J)) :
    toUnionCall first rest .null .null .null = fold first none rest := rfl

/-- **clauses written behind a parenthesised query are kept, outside it**: `(q) ORDER BY ob LIMIT l OFFSET o` is the
query `q` — with every clause it has of its own — under `from`, and the outer clauses next to it; nothing written is
dropped and the inner query is not touched (`to_union_call` used to return `q` alone: repaired, `3ed8b7a`) -/
theorem tail_after_parenthesised_query (q ob lim off : J) (h1 : ob.isNull = false) (h2 : lim.isNull = false) (h3 : off.isNull = false) :
    toUnionCall q [] ob lim off = .obj [("from", q), ("orderby", ob), ("limit", lim), ("offset", off)] := by
  rw [toUnionCall, h1, h2, h3]
  rfl

/-- … and each of the three alone is enough for the wrapper -/
theorem any_tail_wraps (q ob lim off : J) (h : (ob.isNull && off.isNull && lim.isNull) = false) :
    ∃ kvs, toUnionCall q [] ob lim off = .obj (("from", q) :: kvs) := by
  rw [toUnionCall, h]
  exact ⟨_, rfl⟩

/-- **Keys are exactly the clauses present**: the keys of a statement's tree are the names of the
clause slots whose content is not empty, in slot order — for every raw statement, `calls=` mode
and `fmap`. -/
theorem clause_keys (c : Cfg) (kvs : List (String × Raw)) :
    (scrubKw c kvs).map (·.1) = (kvs.filter (fun kv => !(scrub c kv.2).isNull)).map (·.1) :=
  scrubKw_keys c kvs

/-- each present clause holds its own content -/
theorem clause_value (c : Cfg) (kvs : List (String × Raw)) (k : String) (r : Raw)
    (h : (k, r) ∈ kvs) (hn : (scrub c r).isNull = false) : (k, mark (scrub c r)) ∈ scrubKw c kvs :=
  scrubKw_value c kvs k r h hn

/-- **Items in written order**: a clause with two or more items holds exactly their trees, in
order; -/
theorem clause_items (c : Cfg) (items : List Raw) (hn : ∀ r ∈ items, (scrub c r).isNull = false)
    (hl : 2 ≤ items.length) :
    scrub c (.list items) = .arr (items.map (fun r => mark (scrub c r))) := by
  rw [scrub, scrubList_eq_map, collapse_many _ (List.forall_mem_map.mpr hn) (by rwa [List.length_map]),
    List.map_map]
  rfl

/-- a clause with exactly one item holds that item itself (no one-element list) -/
theorem clause_single (c : Cfg) (r : Raw) (hn : (scrub c r).isNull = false) :
    scrub c (.list [r]) = scrub c r :=
  collapse_singleton _

end MoSql.Props.C02
