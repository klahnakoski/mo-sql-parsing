import MoSql.Props.C04
import MoSql.Lemmas.SourcesProps
/-!
C03 — parse → format → parse is the identity on the formatter-supported fragment.
The expression core is carried by the C01/C04 theorems; the clause level is decided by the
round-trip oracle on generated and corpus statements.
-/
namespace MoSql.Props.C03
open MoSql MoSql.Fmt

/-- **format's output always parses, with nothing dropped** (infix core, every depth): for every tree
over the `Operator(...)` vocabulary avoiding the listed triples, every activation of `make_tree` on
the formatter's text consumes all of its tokens — the model of `parse` never answers the formatted
text with a truncated tree. -/
theorem format_output_fully_consumed (t : T) (p : Int)
    (h : admissible Gen.knownFmtTriples Gen.fmtOps t = true) :
    E.dropsTop Gen.ctx (fmtE Gen.fmtOps t p) = false :=
  E.dropsTop_of_okTop Gen.ctx C04.levels_ok _ (C04.fmt_output_compatible t p h)

/-- … and what it parses to is the semantics of what was written (from C04) -/
theorem format_then_parse (t : T) (p : Int)
    (h : admissible Gen.knownFmtTriples Gen.fmtOps t = true) :
    E.evalE Gen.ctx (fmtE Gen.fmtOps t p) = E.sem Gen.ctx (fmtE Gen.fmtOps t p) :=
  C04.parse_of_format t p h

/-- **Parentheses written by format are exactly as strong as needed at the top**: asked for the
loosest context (`prec = 100`, a select item), format writes no outer parentheses around an
operator expression. -/
theorem no_outer_parens (k : Nat) (l r : T) (hk : (Gen.fmtOps.getD k default).prec2 < 200) :
    fmtE Gen.fmtOps (.bin k l r) 200 =
      body (Gen.fmtOps.getD k default)
        (fmtE Gen.fmtOps l (slotPrec (Gen.fmtOps.getD k default) 0))
        (fmtE Gen.fmtOps r (slotPrec (Gen.fmtOps.getD k default) 1)) :=
  if_pos (bare_of_lt hk)

/-! ### the list of sources after FROM (`Formatter._sources`, `_join_on`) -/
section Sources
open MoSql.Sources

/-- **The list after FROM is always written well separated**: for every list of sources of any length — plain sources,
explicit joins with or without a condition, parenthesised groups nested to any depth, in any order, also a join first or
an empty group — a comma is written only between two complete things, a join word never behind a comma, and no two
sources side by side (the automaton `Sources.step`). -/
theorem sources_well_separated (items : List Item) : wellSeparated (fmt items) = true := by
  rcases scan_fmtItems items [] .start (.inl rfl) (.inl rfl) with h | h <;> simp [wellSeparated, fmt, h]

/-- … and its brackets match. -/
theorem sources_balanced (items : List Item) : balanced (fmt items) = true := by
  simp [balanced, fmt, balanced_fmtItems items [] 0 rfl]

/-- a list where it matters: a group as a member of the list, a group as the target of a join, a join inside a group -/
example :
    fmt [.plain (.tbl "a"), .plain (.group [.plain (.tbl "b"), .join "JOIN" (.tbl "c") (.on 1)]),
         .join "LEFT JOIN" (.group [.plain (.tbl "d"), .join "CROSS JOIN" (.tbl "e") .none]) (.using 2)]
      = [.name "a", .comma, .lp, .name "b", .join "JOIN", .name "c", .on 1, .rp,
         .join "LEFT JOIN", .lp, .name "d", .join "CROSS JOIN", .name "e", .rp, .using 2] := by decide +kernel

/-- what the formatter wrote before repair 284e8ac, `a JOIN (b, JOIN c ON …) ON …`, is not well separated -/
example : wellSeparated [.name "a", .join "JOIN", .lp, .name "b", .comma, .join "JOIN", .name "c", .on 1, .rp, .on 2] = false := by
  decide +kernel

end Sources

end MoSql.Props.C03
