import MoSql.Gen.Effects
import MoSql.Ref
import MoSql.Lemmas.ScrubProps
import MoSql.Lemmas.NormalSimple
/-!
C12 — `calls=` and `fmap=` change how applications are written, never what is written.
-/
namespace MoSql.Props.C12
open MoSql MoSql.Scrub

/-- Tie A obligation: `scrub` is a function of the tree it is given — it writes into no object of the grammar's result
(one `Call` object may sit under several parents: a rename written into it would be applied once per parent) -/
theorem scrub_writes_nothing_it_was_given :
    (Gen.argumentWrites.filter (fun w => w.startsWith "utils.scrub:")).all (fun w => Ref.allowedArgumentWrites.contains w) = true := by decide +kernel

/-- **`fmap` only chooses the name** an application is stored under: for every operation,
arguments and keyword arguments, applying `fmap` is the same as applying no `fmap` to the
renamed operation (both `calls=` modes). -/
theorem fmap_is_rename (m : Mode) (fm : List (String × String)) (op : String) (a : J)
    (kw : List (String × J)) :
    applyOp { mode := m, fmap := fm } op a kw
      = applyOp { mode := m, fmap := [] } (Cfg.rename { mode := m, fmap := fm } op) a kw :=
  -- `applyOp` looks at `fmap` only through `c.rename op`, and the empty `fmap` renames nothing
  rfl

/-- **normal form**: a node written by `normal_op` is `{"op": name}` plus `args` only as a
non-empty list and `kwargs` only as a non-empty dict, for every operation and operands -/
theorem normal_shape (fm : List (String × String)) (op : String) (a : J) (kw : List (String × J)) :
    normalShape (applyOp { mode := .normal, fmap := fm } op a kw) = true := by
  rw [applyOp_normal rfl]
  exact normalShape_normalNode ..

/-- **`calls=normal_op` writes the same tree in another notation** — for every raw parse result of any
size and depth and every `fmap`: the `normal_op` output and the default output are related by `Conv`,
the rule-by-rule notation change ({"op": n, "args": […], "kwargs": {…}}  ↔  {n: args unwrapped, **kwargs},
everything else component-wise).  Partial: calls whose whole argument list is the bare NULL placeholder
(`f(null)`) are excluded — known finding `normal_op:sole-null-arg`. -/
theorem normal_is_notation_for_simple (fm : List (String × String)) (r : Raw)
    (h : noSoleNull { mode := .normal, fmap := fm } r = true) :
    Conv (scrub { mode := .normal, fmap := fm } r) (scrub { mode := .simple, fmap := fm } r) :=
  conv_scrub fm r h

/-- the hypothesis is met by nested calls with keyword arguments and NULLs among several arguments,
and it does exclude `f(null)` -/
example :
    noSoleNull { mode := .normal, fmap := [("f", "g")] }
      (.dict [("select", .call "f" (.list [.call "add" (.list [.str "a", .int 1]) [], .sqlNull]) [("k", .str "v")])]) = true
    ∧ noSoleNull { mode := .normal, fmap := [] } (.call "f" .sqlNull []) = false := by decide +kernel

end MoSql.Props.C12
