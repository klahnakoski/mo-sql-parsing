import MoSql.Gen.Graph
import MoSql.Ref
import MoSql.Lemmas.SkipProps
import MoSql.Lemmas.Tables
import MoSql.Lemmas.PegGap
import MoSql.Lemmas.PegExample
/-!
C09 — whitespace, comments, keyword case, optional AS and a trailing semicolon never change the tree.
Models: `MoSql.Skip` (the comment-aware whitespace engine) and `MoSql.Peg` (the recogniser engine the grammar runs on:
where `And` / `Many` skip, ordered and longest choice, optional parts, lookaheads, terminals); structural facts of
the current grammar graph: `MoSql.Gen.Graph` (regenerated on every run).
-/
namespace MoSql.Props.C09
open MoSql MoSql.Skip

/-- **Every filler is absorbed, whatever its length and whatever follows**: a filler is any
concatenation of white characters, `-- …⏎`, `# …⏎` and terminated `/* … */` comments. -/
theorem skip_absorbs_filler (f r : List Char) (hf : Filler f) : skip (f ++ r) = skip r :=
  skip_filler f r hf

/-- two fillers between the same tokens leave the engine at the same place -/
theorem fillers_interchangeable (f g r : List Char) (hf : Filler f) (hg : Filler g) :
    skip (f ++ r) = skip (g ++ r) := by
  rw [skip_filler f r hf, skip_filler g r hg]

/-- skipping stops exactly in front of a character that cannot begin a filler (so a token is never eaten) -/
theorem skip_stops_at_token (r : List Char) (h : stopsHere r = true) : skip r = r :=
  skip_stops r h

/-- an unterminated block comment is not a comment: nothing is skipped (the parser then fails on `/`) -/
theorem unterminated_block_not_skipped (r : List Char) (h : go .B r = none) :
    skip ('/' :: '*' :: r) = '/' :: '*' :: r := by
  rw [skip, goN, go_N_block, h]; rfl

/-- consequence for a token boundary: after any filler the engine stands in front of the next token -/
theorem filler_then_token (f r : List Char) (hf : Filler f) (h : stopsHere r = true) : skip (f ++ r) = r := by
  rw [skip_filler f r hf, skip_stops r h]

/-- the hypotheses are met by a non-trivial filler and token -/
example : Filler " \n-- c\n /* x*y **/ # z\n\t".toList ∧ stopsHere "BY a".toList = true := by
  -- the texts as lists of characters, once: a constructor unified with the unevaluated text evaluates it anew
  dsimp only [String.reduceToList]
  refine ⟨?_, by decide⟩
  refine .white _ _ (by decide) (.white _ _ (by decide) ?_)
  refine .dash [' ', 'c'] _ (by decide) (.white _ _ (by decide) ?_)
  refine .block [' ', 'x', '*', 'y', ' ', '*'] _ (by decide) (.white _ _ (by decide) ?_)
  exact .hash [' ', 'z'] _ (by decide) (.white _ _ (by decide) .nil)

example : skip " \n-- c\n /* x*y **/ # z\n\tBY a".toList = "BY a".toList := by decide +kernel

/-! ### the recogniser engine: what stands in a gap does not matter -/
open MoSql.Peg in
/-- **Engine simulation** (any grammar, any nesting depth, any fuel): when the places of two texts correspond (`Rc`
where a match is tried, `Re` where one ends), the whitespace engines map ends to places, lengths compare alike and
every terminal of the grammar behaves alike on corresponding places, the engine answers alike on both texts. -/
theorem engine_simulation {E : Env} {Rc Re : Str → Str → Prop} {P : Term → Bool} {Q : Nat → Bool}
    (h : Sim E Rc Re P Q) (hrules : ∀ i, G.wf P Q (E.rule i) = true) (fuel : Nat) (g : G) (hg : G.wf P Q g = true)
    (x x' : Str) (hx : Rc x x') : ResRel Re (run E fuel g x) (run E fuel g x') :=
  run_sim h hrules fuel g x x' hg hx

open MoSql.Peg in
/-- **Gap invariance of a whole parse**: two texts that differ only in what fills ONE gap (`pre ++ f ++ post` and
`pre ++ f' ++ post`, both fillers non-empty) get the same answer — the same tokens, or both a failure — from
`Parser.parse_string`, with or without `parse_all`, provided (`GapHyp`) every whitespace engine of the grammar skips
either filler the same way and no terminal tried in front of the gap sees which filler follows. -/
theorem gap_invariance {E : Env} {f f' post : Str} {goodC goodE : Str → Prop} {P : Term → Bool} {Q : Nat → Bool}
    (h : GapHyp E f f' post goodC goodE P Q) (hrules : ∀ i, G.wf P Q (E.rule i) = true)
    (fuel ws : Nat) (hws : Q ws = true) (g : G) (hg : G.wf P Q g = true) (parseAll : Bool)
    (pre : Str) (hpre : goodE pre) :
    (parseTop E fuel ws g parseAll (pre ++ (f ++ post))).outcome
      = (parseTop E fuel ws g parseAll (pre ++ (f' ++ post))).outcome :=
  outcome_eq_of_rel (parseTop_sim (gap_sim h) hrules fuel hws hg parseAll (Or.inl ⟨pre, hpre, rfl, rfl⟩))

open MoSql.Peg in
/-- from an end that is followed by nothing but filler up to the gap, the comment-aware engine goes behind the gap on
both sides -/
theorem comment_engine_filler_up_to_the_gap (f f' post u : Str) (good : Str → Prop) (hu : Filler u) (hf : Filler f)
    (hf' : Filler f') (hp : stopsHere post = true) :
    GapRel f f' post good (skip (u ++ (f ++ post))) (skip (u ++ (f' ++ post))) := by
  rw [skip_filler u _ hu, skip_filler u _ hu, filler_then_token f post hf hp, filler_then_token f' post hf' hp]
  exact Or.inr ⟨rfl, Nat.le_refl _⟩

open MoSql.Peg in
/-- at the gap itself the comment-aware engine discharges the skipping hypothesis for ANY two fillers (white
characters and terminated comments in any mixture) in front of a token -/
theorem comment_engine_at_the_gap (f f' post : Str) (good : Str → Prop) (hf : Filler f) (hf' : Filler f')
    (hp : stopsHere post = true) :
    GapRel f f' post good (skip ([] ++ (f ++ post))) (skip ([] ++ (f' ++ post))) :=
  comment_engine_filler_up_to_the_gap f f' post [] good .nil hf hf' hp

open MoSql.Peg in
/-- in front of the gap, the comment-aware engine behaves alike on both texts from every end of the shape
"filler, then something solid" (`w ++ u'`) and from every end followed by filler only: together with
`comment_engine_at_the_gap` this discharges the skipping hypothesis of `GapHyp` for every end that does not stand
inside an open comment -/
theorem comment_engine_before_the_gap (f f' post w u' : Str) (good : Str → Prop) (hw : Filler w)
    (hs : solidStart u' = true) (hg : good u') :
    GapRel f f' post good (skip ((w ++ u') ++ (f ++ post))) (skip ((w ++ u') ++ (f' ++ post))) := by
  have e (k : Str) : skip ((w ++ u') ++ k) = u' ++ k := by
    rw [List.append_assoc, filler_then_token w _ hw (stopsHere_of_solidStart u' k hs)]
  rw [e, e]
  exact Or.inl ⟨u', hg, rfl, rfl⟩

open MoSql.Peg in
/-- the terminal hypothesis of `GapHyp` for literals: a `Literal` / `CaselessLiteral` whose text is not longer than what
is left in front of the gap matches, or fails, alike on both texts (it cannot see the filler) -/
theorem literal_does_not_see_the_gap (f f' post u s : Str) (cl : Bool) (goodE : Str → Prop) (hlen : s.length ≤ u.length)
    (hgood : ∀ r0, stripPrefix cl s u = some r0 → goodE r0) :
    TermRel (GapRel f f' post goodE) (matchTerm (.lit s cl) (u ++ (f ++ post))) (matchTerm (.lit s cl) (u ++ (f' ++ post))) := by
  simp only [matchTerm, stripPrefix_append cl s u _ hlen]
  cases h : stripPrefix cl s u with
  | none => trivial
  | some r0 => exact ⟨rfl, Or.inl ⟨r0, hgood r0 h, rfl, rfl⟩⟩

/-- the engines never move backwards (a hypothesis of `GapHyp`, here for the comment-aware engine) -/
theorem comment_engine_moves_forward (x : List Char) : (skip x).length ≤ x.length := skip_le x

/-- a terminal never hands back more text than it was given (used behind the gap) -/
theorem terminal_moves_forward (t : Peg.Term) (x s r : Peg.Str) (h : Peg.matchTerm t x = some (s, r)) : r.length ≤ x.length :=
  Peg.matchTerm_le t x s r h

/-- the hypotheses of `gap_invariance` are met by a real grammar and text — `SELECT name (, name)*` on
`select a<gap>, b` with the gap filled by a blank or by a block comment and a line break — and the common answer
is a match, not a failure -/
example :
    (Peg.parseTop Peg.Example.E 20 2 Peg.Example.g true "select a , b".toList).outcome
      = (Peg.parseTop Peg.Example.E 20 2 Peg.Example.g true "select a/*c*/\n, b".toList).outcome := by
  open Peg.Example in
  -- as equations for the kernel: unification in `exact` would have the elaborator evaluate the texts too (far dearer)
  rw [show "select a , b".toList = pre ++ (f ++ post) by decide +kernel,
    show "select a/*c*/\n, b".toList = pre ++ (f' ++ post) by decide +kernel]
  exact gap_invariance Peg.Example.hyp (fun _ => rfl) 20 2 rfl Peg.Example.g (by decide +kernel) true Peg.Example.pre (Or.inl rfl)

example :
    (Peg.parseTop Peg.Example.E 20 2 Peg.Example.g true "select a/*c*/\n, b".toList).outcome
      = some (some [.leaf "select".toList, .leaf "a".toList, .leaf ",".toList, .leaf "b".toList]) := by
  dsimp only [String.reduceToList]; rfl

/-- Tie A: the engines found in the current grammar graphs are the ones the model was written against -/
theorem engines_pinned : (Gen.wsEngines == Ref.wsEngines) = true := beq_iff_eq.mpr rfl

/-- **Structural obligation on the current grammar graph (all 8 parsers)**: every sequencing node
that skips whitespace between its parts uses the comment-aware engine, except the nodes listed as
known findings (built at import time, outside `with Whitespace()`).  A new node outside the block
makes this proof fail. -/
theorem seq_nodes_comment_aware :
    Gen.wsOffending.all (fun n => Gen.knownWsNodes.contains n) = true :=
  all_contains_self Gen.knownWsNodes

/-- every terminal of the current grammar graphs is of a kind the engine model has, or one of the pinned regular
expressions (`Ref.pinnedOtherTerminals`): a new complex terminal breaks this proof -/
theorem terminals_pinned : Gen.otherTerminals.all (fun t => Ref.pinnedOtherTerminals.contains t) = true :=
  all_contains_self Ref.pinnedOtherTerminals

/-- every terminal with letters is matched caselessly, except literal-spelling introducers and the
known findings -/
theorem keywords_caseless :
    Gen.caseSensitiveKeywords.all
      (fun k => Ref.literalSpellingTerminals.contains k || Gen.knownCaseKeywords.contains k) = true := by decide +kernel

end MoSql.Props.C09
