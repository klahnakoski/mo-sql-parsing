import MoSql.Lemmas.DmlProps
/-!
C19 — DDL and DML trees keep every column, option, assignment and row in place.
Model: `MoSql.Dml` — the shaping of INSERT … VALUES in both forms the library produces, and the
flattening of a column's character set.  That the recogniser hands every written column, option,
constraint and value to these functions in source order is decided on the real parser by the oracle
over the DDL/DML generator (partial).
-/
namespace MoSql.Props.C19
open MoSql MoSql.Dml

variable {V : Type}

/-- **INSERT … VALUES pairs the i-th column with the i-th value of every row** — any number of columns
and rows, any values, both shapes (`{"values": [{col: v}…]}` chosen when there are several rows of
truthy plain literals, `{"columns", "query"}` otherwise): the value recorded for row `j` under column `i`
(by NAME in the dict shape) is the value written at position `i` of row `j`. -/
theorem insert_pairs (cs : List String) (rows : List (List (Cell V))) (hne : cs ≠ []) (hnd : cs.Nodup)
    (hlen : ∀ r ∈ rows, r.length = cs.length) (j i : Nat) (hj : j < rows.length) (hi : i < cs.length) :
    (toInsert (some cs) rows).cell cs j i
      = some ((rows[j]'hj)[i]'(by rw [hlen _ (List.getElem_mem hj)]; exact hi)).val := by
  have hrow : (rows[j]'hj).length = cs.length := hlen _ (List.getElem_mem hj)
  unfold toInsert
  split
  · dsimp only
    rw [if_neg (mt List.isEmpty_iff.mp hne)]
    exact cell_byName cs hnd rows hj hi hrow
  · exact cell_positional rows hj (hrow ▸ hi)

/-- without a column list values are kept by position, in both shapes -/
theorem insert_positional (rows : List (List (Cell V))) (j i : Nat) (hj : j < rows.length)
    (hi : i < (rows[j]'hj).length) :
    (toInsert none rows).cell [] j i = some ((rows[j]'hj)[i]'hi).val := by
  unfold toInsert
  split <;> exact cell_positional rows hj hi

/-- both shapes really occur (the theorem is not about one of them only) -/
example :
    (match toInsert (some ["a", "b"]) [[Cell.lit 1 true, .lit 2 true], [.lit 3 true, .lit 4 true]] with
      | .valuesDicts _ => true | _ => false) = true
    ∧ (match toInsert (some ["a", "b"]) [[Cell.lit 1 true, .other 0], [.lit 3 true, .lit 4 true]] with
      | .query _ _ => true | _ => false) = true
    ∧ (match toInsert (some ["a", "b"]) [[Cell.lit 0 false, .lit 2 true], [.lit 3 true, .lit 4 true]] with
      | .query _ _ => true | _ => false) = true := by decide +kernel

/-- the `Nodup` hypothesis is needed: a repeated column name collapses in the dict shape (the generator
does not write such statements — they are invalid SQL) -/
example : (toInsert (some ["a", "a"]) [[Cell.lit 1 true, .lit 2 true], [.lit 3 true, .lit 4 true]]).cell ["a", "a"] 0 0
    = some 2 := by decide +kernel

/-- **`to_flat_column_type` moves the character set and nothing else**: every other key of the column
and every other attribute of the type is untouched … -/
theorem flat_column_keeps_other_keys (c : ColDesc V) (k : String) (hk : (k == "character_set") = false) :
    getKey (flatColumn c).keys k = getKey c.keys k ∧ getKey (flatColumn c).typeKw k = getKey c.typeKw k := by
  unfold flatColumn
  cases h : getKey c.typeKw "character_set" with
  | none => exact ⟨rfl, rfl⟩
  | some cs => exact ⟨getKey_setKey_other _ _ hk, getKey_delKey_other _ hk⟩

/-- … the character set, when the type has one, is recorded on the column it was written on … -/
theorem flat_column_moves_charset (c : ColDesc V) (cs : V) (h : getKey c.typeKw "character_set" = some cs) :
    getKey (flatColumn c).keys "character_set" = some cs ∧ (flatColumn c).typeName = c.typeName := by
  unfold flatColumn
  simp [h, getKey_setKey_same]

/-- … and a column whose type has none is returned as it is -/
theorem flat_column_without_charset (c : ColDesc V) (h : getKey c.typeKw "character_set" = none) :
    flatColumn c = c := by
  unfold flatColumn; simp [h]

end MoSql.Props.C19
